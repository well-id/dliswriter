/-
  L1 — logical-record segmentation, visible-record framing, storage unit label
  (`logical_record_bytes.py`, `segment_attributes.py`, `file/writer.py`, `storage_unit_label.py`,
  `converters.get_ascii_bytes`).
-/
import Dlismodel.Model.Prim
namespace Dlis

/-- a logical record before framing -/
structure Rec where
  isEflr : Bool
  type : Nat
  body : Bytes
  deriving Repr, DecidableEq

/-- one logical record segment, abstractly: flags + the payload bytes it carries -/
structure PSeg where
  eflr : Bool
  type : Nat
  pred : Bool      -- has predecessor
  succ : Bool      -- has successor
  payload : Bytes
  deriving Repr, DecidableEq

/-! ### the splitting loop of `make_segments` -/

/-- body size of the next segment: one iteration of the `while` loop -/
def stepSize (cap rem : Nat) : Nat :=
  let n := min rem cap
  let fut := rem - n
  if 0 < fut ∧ fut < 12 then n - (12 - fut) else n

/-- the sizes of all segment bodies (fuel = number of remaining bytes is always enough, see
`splitSizes_spec`) -/
def splitSizes (cap : Nat) : Nat → Nat → List Nat
  | 0, _ => []
  | fuel + 1, rem =>
    if rem = 0 then [] else
      let n := stepSize cap rem
      n :: splitSizes cap fuel (rem - n)

/-- cut a body into consecutive chunks of the given sizes -/
def cut : List Nat → Bytes → List Bytes
  | [], _ => []
  | n :: ns, b => b.take n :: cut ns (b.drop n)

/-- flag the chunks: only the first lacks `pred`, only the last lacks `succ` -/
def flagChunks (eflr : Bool) (ty : Nat) : Bool → List Bytes → List PSeg
  | _, [] => []
  | first, [c] => [{ eflr := eflr, type := ty, pred := !first, succ := false, payload := c }]
  | first, c :: cs => { eflr := eflr, type := ty, pred := !first, succ := true, payload := c } ::
      flagChunks eflr ty false cs

/-- `LogicalRecordBytes.make_segments(cap)` as a list of abstract segments -/
def segsOf (cap : Nat) (r : Rec) : List PSeg :=
  flagChunks r.isEflr r.type true (cut (splitSizes cap r.body.length r.body.length) r.body)

/-! ### bytes of a segment (`make_segment`) and of a visible record -/

/-- number of pad bytes: fill up to the 12-byte minimum body, then to even length -/
def padLen (n : Nat) : Nat :=
  let p := 12 - n
  if (n + p) % 2 = 1 then p + 1 else p

def attrByte (s : PSeg) (pad : Bool) : Nat :=
  (if s.eflr then 128 else 0) + (if s.pred then 64 else 0) + (if s.succ then 32 else 0) + (if pad then 1 else 0)

def encSeg (s : PSeg) : Bytes :=
  let p := padLen s.payload.length
  beN 2 (s.payload.length + p + 4) ++ [b8 (attrByte s (p != 0)), b8 s.type] ++ s.payload ++ List.replicate p (b8 p)

/-- `_make_visible_record`: 2-byte length, 0xFF 0x01, body -/
def encVR (body : Bytes) : Bytes := beN 2 (body.length + 4) ++ [0xFF, 0x01] ++ body

/-! ### storage unit label -/

def digitsAux : Nat → Nat → List Nat → List Nat
  | 0, _, acc => acc
  | fuel + 1, n, acc => if n < 10 then (48 + n) :: acc else digitsAux fuel (n / 10) ((48 + n % 10) :: acc)

/-- `str(n)` for a natural number -/
def natStr (n : Nat) : PStr := digitsAux (n + 1) n []

/-- `str(i)` for a Python int -/
def intStr (i : Int) : PStr := if i < 0 then 45 :: natStr i.natAbs else natStr i.toNat

/-- `get_ascii_bytes(value, required_length, justify_left)` -/
def justify (s : PStr) (len : Nat) (left : Bool) : Except Err Bytes :=
  if s.length > len then .error .value else
    let pad := List.replicate (len - s.length) 32
    asciiBytes (if left then s ++ pad else pad ++ s)

structure Cfg where
  vrl : Int         -- max_record_length as passed
  seq : PStr        -- str(sequence_number)
  setId : PStr
  deriving Repr, DecidableEq

def sV100 : PStr := [86, 49, 46, 48, 48]           -- "V1.00"
def sRECORD : PStr := [82, 69, 67, 79, 82, 68]     -- "RECORD"

/-- `StorageUnitLabel.represent_as_bytes` -/
def sulBytes (c : Cfg) : Except Err Bytes := do
  let a ← justify c.seq 4 false
  let b ← justify sV100 5 true
  let d ← justify sRECORD 6 false
  let e ← justify (intStr c.vrl) 5 false
  let f ← justify c.setId 60 true
  pure (a ++ b ++ d ++ e ++ f)

/-- `DLISWriter._check_visible_record_length` (for an `int`) -/
def vrlValid (vrl : Int) : Bool := 20 ≤ vrl ∧ vrl ≤ 16384 ∧ vrl % 2 = 0

/-- all segments of all records, one visible record per segment (`write_logical_records`) -/
def frameRecs (vrl : Nat) (recs : List Rec) : Bytes :=
  ((recs.flatMap (segsOf (vrl - 8))).map (fun s => encVR (encSeg s))).flatten

/-- the whole file: SUL then visible records.  Errors: invalid record length, SUL fields that do
not fit / are not ASCII. -/
def frameFile (c : Cfg) (recs : List Rec) : Except Err Bytes :=
  if !vrlValid c.vrl then .error .value else do
    let sul ← sulBytes c
    pure (sul ++ frameRecs c.vrl.toNat recs)

end Dlis
