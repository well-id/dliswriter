/-
  C10 — Chunk sizes are invisible; the file on disk only ever grows by whole records.
  PARTIAL in one respect: that opening with 'wb' replaces the target and 'ab' appends is the OS's behaviour;
  the model states it (`diskAfter`), the correspondence observes the real file at every flush.
-/
import Dlismodel.Proofs.Output
import Dlismodel.Proofs.Data
import Dlismodel.Proofs.Seg
namespace Dlis.C10
open Dlis

/-- output side: for every buffer size the file is label ++ visible records, the reported total is its size,
and after every physical write the on-disk content is a prefix ending on a visible-record boundary -/
theorem output_chunks_invisible (cap : Nat) (sul : Bytes) (vrs : List Bytes) :
    let o := runOutput cap sul vrs
    o.writes.flatten = sul ++ vrs.flatten ∧ o.total = (sul ++ vrs.flatten).length ∧
      ∀ k, 1 ≤ k → k ≤ o.writes.length → ∃ m, m ≤ vrs.length ∧ diskAfter o k = sul ++ (vrs.take m).flatten :=
  runOutput_spec cap sul vrs

/-- two different buffer sizes give the same file -/
theorem output_chunk_independent (c1 c2 : Nat) (sul : Bytes) (vrs : List Bytes) :
    (runOutput c1 sul vrs).writes.flatten = (runOutput c2 sul vrs).writes.flatten := by
  rw [(runOutput_spec c1 sul vrs).1, (runOutput_spec c2 sul vrs).1]

/-- input side: every input chunk size ≥ 1 (or None) yields the rows once, in order — hence the same records -/
theorem input_chunks_invisible (frame : ObName) (rows : List (List Slot)) (fromIdx : Nat) (toIdx c1 c2 : Option Nat)
    (h1 : ∀ k, c1 = some k → 1 ≤ k) (h2 : ∀ k, c2 = some k → 1 ≤ k) :
    frameRecords frame rows fromIdx toIdx c1 = frameRecords frame rows fromIdx toIdx c2 := by
  rw [frameRecords, frameRecords, chunkedRows_eq, chunkedRows_eq]

/-- the whole file written through the buffer is `frameFile`'s output -/
theorem file_is_frameFile (c : Cfg) (recs : List Rec) (out sul : Bytes) (cap : Nat)
    (hs : sulBytes c = .ok sul) (h : frameFile c recs = .ok out) :
    (runOutput cap sul ((recs.flatMap (segsOf (c.vrl.toNat - 8))).map fun s => encVR (encSeg s))).writes.flatten = out := by
  obtain ⟨_, sul', hs', rfl⟩ := frameFile_eq_ok.mp h
  cases hs.symm.trans hs'
  exact (runOutput_spec _ _ _).1

/-- the accepted output chunk sizes: numbers with zero fractional part, not below the record length -/
theorem chunk_accepted_iff (chunk : Int) (integral : Bool) (vrl : Int) :
    chunkOk chunk integral vrl = true ↔ (integral = true ∧ vrl ≤ chunk) := by
  simp [chunkOk]

example : (runOutput 10 [1, 2] [[3, 4, 5, 6], [7, 8, 9, 10, 11, 12, 13], [14]]).writes =
    [[1, 2], [3, 4, 5, 6], [7, 8, 9, 10, 11, 12, 13, 14]] := by decide

end Dlis.C10
