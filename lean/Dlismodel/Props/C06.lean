/-
  C06 — Primitive values are encoded exactly as their representation code prescribes.

  For each code the writer uses: (a) whenever the encoder succeeds, the *strict* decoder applied to the
  emitted bytes followed by arbitrary further bytes returns exactly the value and exactly those further
  bytes (so the consumed length is the emitted length); (b) the encoder succeeds exactly on the
  standard's value domain — everything else is an error, never wrapped / truncated / mis-prefixed.
  The encoders are the model of `write_struct*` (`Model/Prim.lean`), tied to the code by the C06
  correspondence stream.
-/
import Dlismodel.Proofs.Prim
import Dlismodel.Proofs.Float
namespace Dlis.C06
open Dlis

/-- USHORT / UNORM / ULONG (k = 1, 2, 4) -/
theorem unsigned_roundtrip (k : Nat) (v : Int) (bs rest : Bytes) (h : encU k v = .ok bs) :
    decU k (bs ++ rest) = some (v, rest) ∧ bs.length = k := ⟨decU_encU h rest, encU_length h⟩

theorem unsigned_domain (k : Nat) (v : Int) :
    (∃ bs, encU k v = .ok bs) ↔ (0 ≤ v ∧ v < (256 : Int) ^ k) := encU_ok_iff k v

/-- SSHORT / SNORM / SLONG (k = 1, 2, 4) -/
theorem signed_roundtrip (k : Nat) (hk : 0 < k) (v : Int) (bs rest : Bytes) (h : encS k v = .ok bs) :
    decS k (bs ++ rest) = some (v, rest) := decS_encS hk h rest

theorem signed_domain (k : Nat) (v : Int) :
    (∃ bs, encS k v = .ok bs) ↔ (-((256 : Int) ^ k / 2) ≤ v ∧ v < (256 : Int) ^ k / 2) := encS_ok_iff k v

/-- UVARI: domain 0 .. 2^30-1; 1/2/4-byte forms at the 127/128 and 16383/16384 boundaries -/
theorem uvari_roundtrip (v : Int) (bs rest : Bytes) (h : encUvari v = .ok bs) :
    decUvari (bs ++ rest) = some (v.toNat, rest) ∧ 0 ≤ v ∧
      bs.length = (if v < 128 then 1 else if v < 16384 then 2 else 4) := by
  obtain ⟨⟨h0, _⟩, hbs⟩ := encUvari_eq_ok.mp h
  refine ⟨decUvari_encUvari h rest, h0, ?_⟩
  rw [hbs]
  split
  · exact beN_length ..
  · split <;> exact beN_length ..

theorem uvari_domain (v : Int) : (∃ bs, encUvari v = .ok bs) ↔ (0 ≤ v ∧ v < 2 ^ 30) := by
  have := encUvari_ok_iff v
  simpa using this

/-- ASCII: UVARI length prefix + the characters; only 7-bit text, length below 2^30 -/
theorem ascii_roundtrip (s : PStr) (bs rest : Bytes) (h : encAscii s = .ok bs) :
    decAscii (bs ++ rest) = some (s.map b8, rest) := decAscii_encAscii h rest

theorem ascii_domain (s : PStr) :
    (∃ bs, encAscii s = .ok bs) ↔ (isAscii s = true ∧ s.length < 2 ^ 30) := by
  have := encAscii_ok_iff s
  simpa using this

/-- IDENT (also UNITS, labels, set types/names, object names): one length byte, at most 255 characters -/
theorem ident_roundtrip (s : PStr) (bs rest : Bytes) (h : encIdent s = .ok bs) :
    decIdent (bs ++ rest) = some (s.map b8, rest) ∧ bs.length = 1 + s.length :=
  ⟨decIdent_encIdent h rest, by rw [(encIdent_eq_ok.mp h).2, List.length_cons, List.length_map, Nat.add_comm]⟩

theorem ident_domain (s : PStr) :
    (∃ bs, encIdent s = .ok bs) ↔ (isAscii s = true ∧ s.length ≤ 255) := encIdent_ok_iff s

/-- DTIME: the UTC fields, zone code 2, millisecond rounded half-to-even and clamped to 999 -/
theorem dtime_roundtrip (t : DTime) (bs rest : Bytes) (h : encDtime t = .ok bs)
    (hm : 1 ≤ t.month ∧ t.month ≤ 12) (hd : 1 ≤ t.day ∧ t.day ≤ 31) (hh : t.hour ≤ 23)
    (hmi : t.minute ≤ 59) (hs : t.second ≤ 59) :
    decDtime (bs ++ rest) =
      some ({ y := (t.year - 1900).toNat, tz := 2, month := t.month, day := t.day, hour := t.hour,
              minute := t.minute, second := t.second, ms := msOfMicro t.micro }, rest)
    ∧ 1900 ≤ t.year ∧ t.year ≤ 2155 :=
  ⟨decDtime_encDtime h rest hm hd hh hmi hs, by have := (encDtime_ok h).1; omega⟩

/-- the written millisecond is the nearest one (ties to even), except that 999.5 ms and above clamp to 999 -/
theorem dtime_millisecond (us : Nat) (h : us < 1000000) :
    (msOfMicro us * 1000 ≤ us + 500 ∧ us ≤ msOfMicro us * 1000 + 500) ∨ (msOfMicro us = 999 ∧ 999500 ≤ us) := by
  unfold msOfMicro
  simp only []
  -- first the rounding, then the clamp
  generalize hm : ite (us % 1000 < 500) _ _ = m
  have hn : m * 1000 ≤ us + 500 ∧ us ≤ m * 1000 + 500 := by
    subst hm
    split
    · omega
    · split
      · omega
      · split <;> omega
  omega

/-- OBNAME: origin (UVARI), copy (USHORT), name (IDENT) -/
theorem obname_roundtrip (o : ObName) (bs rest : Bytes) (h : encObname o = .ok bs) :
    decObname (bs ++ rest) =
      some ({ origin := o.origin.toNat, copy := o.copy.toNat, name := o.name.map b8 }, rest) :=
  decObname_encObname h rest

theorem obname_domain (o : ObName) :
    (∃ bs, encObname o = .ok bs) ↔
      (0 ≤ o.origin ∧ o.origin < 1073741824 ∧ 0 ≤ o.copy ∧ o.copy < 256 ∧ isAscii o.name = true ∧ o.name.length ≤ 255) := by
  simp only [encObname, bind_ok, pure_ok, encUvari_eq_ok, encU_eq_ok, encIdent_eq_ok]
  constructor
  · rintro ⟨_, _, ⟨h1, _⟩, _, ⟨h2, _⟩, _, ⟨h3, _⟩, _⟩
    exact ⟨h1.1, h1.2, h2.1, h2.2, h3.1, h3.2⟩
  · rintro ⟨h1, h2, h3, h4, h5, h6⟩
    exact ⟨_, _, ⟨⟨h1, h2⟩, rfl⟩, _, ⟨⟨h3, h4⟩, rfl⟩, _, ⟨⟨h5, h6⟩, rfl⟩, rfl⟩

/-- OBJREF: set type (IDENT) + OBNAME -/
theorem objref_roundtrip (t : PStr) (o : ObName) (bs rest : Bytes) (h : encObjref t o = .ok bs) :
    decObjref (bs ++ rest) =
      some ((t.map b8, { origin := o.origin.toNat, copy := o.copy.toNat, name := o.name.map b8 }), rest) :=
  decObjref_encObjref h rest

/-- STATUS: 0 or 1 only -/
theorem status_roundtrip (v : Int) (bs rest : Bytes) (h : encStatus v = .ok bs) :
    decStatus (bs ++ rest) = some (v.toNat, rest) := decStatus_encStatus h rest

theorem status_domain (v : Int) : (∃ bs, encStatus v = .ok bs) ↔ (v = 0 ∨ v = 1) := encStatus_ok_iff v

/-- FSINGL / FDOUBL and all fixed-width channel values are written as the big-endian image of their bit
pattern (`beN`), which `rdN` inverts: bit-exactness for NaN payloads, ±0, ±inf is this identity. -/
theorem bits_roundtrip (k n : Nat) (rest : Bytes) (h : n < 256 ^ k) :
    rdN k (beN k n ++ rest) = some (n, rest) := rdN_beN k n rest h

/-! FSINGL of a Python float (a double): `struct.pack('>f', x)`, modelled on bit patterns by `f64ToF32`.
Magnitudes are compared exactly, as natural numbers (`f64Mag`: units of 2^-1074; `f32Mag`: units of 2^-149, defined
on all magnitude bit patterns, i.e. with the exponent range continued upwards). -/

/-- a value a single can hold is written exactly: a single widened to a double packs back to itself -/
theorem fsingl_exact_when_representable (s d : Nat) (hs : s < 2 ^ 32) (h : f32ToF64 s = some d) :
    f64ToF32 d = .ok s := f64ToF32_widen s d hs h

/-- any other finite double that is packed gets the double's sign and a finite single than which NO single is nearer;
where two are equally near, the one with the even significand -/
theorem fsingl_rounds_to_nearest (b r : Nat) (hfin : b / 2 ^ 52 % 2048 ≠ 2047) (h : f64ToF32 b = .ok r) :
    r / 2 ^ 31 = b / 2 ^ 63 ∧ r % 2 ^ 31 < 255 * 2 ^ 23 ∧
      (∀ t, dist (f64Mag b) (f32Mag (r % 2 ^ 31) * 2 ^ 925) ≤ dist (f64Mag b) (f32Mag t * 2 ^ 925)) ∧
      (∀ t, t ≠ r % 2 ^ 31 →
        dist (f64Mag b) (f32Mag (r % 2 ^ 31) * 2 ^ 925) = dist (f64Mag b) (f32Mag t * 2 ^ 925) → r % 2 = 0) := by
  obtain ⟨sig, e', he1, hsig, hnorm, hmag, hlt, hs, hm⟩ := f64ToF32_ok hfin h
  rw [hm, hmag]
  refine ⟨hs, hlt, fun t => (roundMag_spec sig e' he1 hsig hnorm t).1, fun t hne heq => ?_⟩
  have := (roundMag_spec sig e' he1 hsig hnorm t).2 hne heq
  omega

/-- out of range is refused, nothing else is: a double is not packed iff it is finite and its magnitude is at least
`(2^25 - 1) * 2^103`, half-way between the largest finite single and 2^128 (here doubled, in units of 2^-1074); the
error is OverflowError -/
theorem fsingl_refuses_out_of_range (b : Nat) (e : Err) :
    f64ToF32 b = .error e ↔
      e = .overflow ∧ b / 2 ^ 52 % 2048 ≠ 2047 ∧ (2 ^ 25 - 1) * (2 ^ 253 * 2 ^ 925) ≤ 2 * f64Mag b := by
  by_cases hfin : b / 2 ^ 52 % 2048 = 2047
  · obtain ⟨r, hr, _⟩ := f64ToF32_special b hfin
    rw [hr]
    exact ⟨(fun h => nomatch h), fun h => absurd hfin h.2.1⟩
  · obtain ⟨sig, e', he1, hsig, hnorm, hmag, hf⟩ := f64ToF32_finite b hfin
    rw [hf, hmag, ← roundMag_overflow_iff sig e' he1 hsig hnorm]
    split
    · rename_i hc
      exact ⟨fun h => ⟨by injection h with h; exact h.symm, hfin, hc⟩, fun h => h.1 ▸ rfl⟩
    · rename_i hc
      exact ⟨(fun h => nomatch h), fun h => absurd h.2.2 hc⟩

/-- infinities and NaNs stay what they are, with their sign -/
theorem fsingl_special (b : Nat) (h : b / 2 ^ 52 % 2048 = 2047) :
    ∃ r, f64ToF32 b = .ok r ∧ r / 2 ^ 31 = b / 2 ^ 63 ∧ r / 2 ^ 23 % 256 = 255 ∧ (r % 2 ^ 23 = 0 ↔ b % 2 ^ 52 = 0) :=
  f64ToF32_special b h

/-! non-vacuity: concrete values meet the hypotheses -/
example : f64ToF32 0x3FB999999999999A = .ok 0x3DCCCCCD := by decide            -- 0.1
example : f64ToF32 0x47EFFFFFEFFFFFFF = .ok 0x7F7FFFFF := by decide            -- just below the threshold: largest single
example : f64ToF32 0x47EFFFFFF0000000 = .error .overflow := by decide          -- the threshold itself (a tie, to even)
example : f64ToF32 0x3690000000000000 = .ok 0 := by decide                     -- 2^-150: tie between 0 and 2^-149
example : f64ToF32 0x3690000000000001 = .ok 1 := by decide
example : encUvari 16383 = .ok [0xBF, 0xFF] := by decide
example : encUvari 16384 = .ok [0xC0, 0x00, 0x40, 0x00] := by decide
example : encUvari 1073741824 = .error .struct := by decide
example : encS 1 (-128) = .ok [0x80] := by decide
example : encIdent [65, 66] = .ok [2, 65, 66] := by decide
example : (encDtime { year := 1987, month := 4, day := 19, hour := 21, minute := 20, second := 15, micro := 620000 })
    = .ok [87, 0x24, 19, 21, 20, 15, 0x02, 0x6C] := by decide

end Dlis.C06
