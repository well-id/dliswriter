/-
  C15 — Writability never hinges on byte-size coincidences.

  At the framing layer: for every record length the writer's own validity check accepts (even, 20..16384)
  and *every* list of records — bodies shorter than the 12-byte segment minimum, odd, or many times the
  capacity — `frameFile` succeeds (given label fields that fit), the output is well-formed (C01) and reads
  back to the records (C02); short bodies are carried by flagged padding: the pad count is stored in the
  pad bytes and the padding attribute bit is set, nothing is added to the body.
-/
import Dlismodel.Proofs.Seg
import Dlismodel.Props.C01
import Dlismodel.Props.C02
namespace Dlis.C15
open Dlis

theorem framing_total (c : Cfg) (recs : List Rec) (hv : vrlValid c.vrl = true) (sul : Bytes)
    (hs : sulBytes c = .ok sul) : ∃ out, frameFile c recs = .ok out :=
  ⟨_, frameFile_eq_ok.mpr ⟨hv, sul, hs, rfl⟩⟩

/-- the only ways framing can fail: the record length is rejected by the validity check, or a label field does
not fit / is not ASCII -/
theorem framing_fails_iff (c : Cfg) (recs : List Rec) :
    (∃ e, frameFile c recs = .error e) ↔ (vrlValid c.vrl = false ∨ ∃ e, sulBytes c = .error e) := by
  unfold frameFile
  cases hv : vrlValid c.vrl
  · simp
  · cases hs : sulBytes c <;> simp [bind, Except.bind, pure, Except.pure]

/-- and whenever it succeeds the result is faithful, whatever the body sizes -/
theorem framing_faithful (c : Cfg) (recs : List Rec) (out : Bytes) (ht : ∀ r ∈ recs, r.type < 256)
    (h : frameFile c recs = .ok out) :
    (∃ segs, readSegs c out = some segs) ∧ readFile c out = some (recs.filter (fun r => !r.body.isEmpty)) :=
  ⟨C01.layout_wellformed c recs out ht h, C02.segmentation_lossless c recs out ht h⟩

/-- every validity-checked record length gives a usable capacity: a segment always carries at least one byte
and never more than the capacity -/
theorem capacity_progress (vrl : Int) (hv : vrlValid vrl = true) (rem : Nat) (hr : 0 < rem) :
    1 ≤ stepSize (vrl.toNat - 8) rem ∧ stepSize (vrl.toNat - 8) rem ≤ rem := by
  obtain ⟨cap, hcap, _, h12, _⟩ := vrlValid_cap hv
  rw [hcap, Nat.add_sub_cancel]
  exact ⟨(stepSize_bounds cap rem h12 hr).1, (stepSize_bounds cap rem h12 hr).2.1⟩

/-! non-vacuity: a one-byte body at the smallest record length -/
example :
    let c : Cfg := { vrl := 20, seq := [49], setId := [65] }
    let r : Rec := { isEflr := false, type := 0, body := [42] }
    (frameFile c [r]).toOption.bind (readFile c) = some [r] := by decide +kernel

end Dlis.C15
