/-
  C02 — Segmentation is lossless, ordered and correctly bracketed.

  `readFile` is the strict physical reader (`Model/Parse.lean`): it rejects a predecessor flag on a first
  segment, a missing one on a later segment, a change of the explicit/indirect flag or of the record type
  inside a record, a file ending inside a record, and any byte not tiled by visible records and segments.
  The theorem says that on every file `frameFile` produces it returns exactly the records given (those with
  a non-empty body — an empty body yields no segment at all, which is the writer's behaviour for empty sets),
  same number, same order, each body byte for byte.  Non-interleaving is `frameRecs_append`.
-/
import Dlismodel.Props.C01
namespace Dlis.C02
open Dlis

theorem segmentation_lossless (c : Cfg) (recs : List Rec) (out : Bytes)
    (htype : ∀ r ∈ recs, r.type < 256) (h : frameFile c recs = .ok out) :
    readFile c out = some (recs.filter (fun r => !r.body.isEmpty)) := by
  obtain ⟨cap, hcap, _, h12, _⟩ := vrlValid_cap (frameFile_eq_ok.mp h).1
  rw [readFile_eq, C01.readSegs_frameFile c recs out htype h, Option.bind_some, hcap, Nat.add_sub_cancel]
  exact assemble_segsOf cap h12 recs

/-- the visible records of consecutive record lists are concatenated: segments of different records never
interleave -/
theorem frameRecs_append (vrl : Nat) (a b : List Rec) :
    frameRecs vrl (a ++ b) = frameRecs vrl a ++ frameRecs vrl b := by
  simp [frameRecs]

/-- within a record only the first segment lacks the predecessor flag and only the last lacks the successor
flag; flag and type are those of the record on every segment -/
theorem flags_bracketed (e : Bool) (t : Nat) (cs : List Bytes) :
    ∀ (i : Nat) (h : i < (flagChunks e t true cs).length),
      let s := (flagChunks e t true cs)[i]
      s.eflr = e ∧ s.type = t ∧ (s.pred = true ↔ i ≠ 0) ∧ (s.succ = true ↔ i + 1 ≠ (flagChunks e t true cs).length) := by
  intro i h
  simp [flagChunks_eq]

/-! non-vacuity: a 30-byte record at the smallest record length is cut into three segments and read back -/
example :
    let c : Cfg := { vrl := 20, seq := [49], setId := [65] }
    let r : Rec := { isEflr := true, type := 3, body := List.replicate 30 7 }
    (frameFile c [r]).toOption.bind (readFile c) = some [r] := by decide +kernel

end Dlis.C02
