/-
  C08 — A frame's channel descriptors match the layout of its data records.

  `codeOfDtype` / `sizeOfCode` are the standard's dtype ↔ representation code ↔ element size tables (the generated
  table of the live package is proved equal: Obligations.dtypeCodes_eq).  `channelDescriptor` is the model of
  ChannelItem.set_dimension_and_repr_code_from_data (+ the element-limit default).
-/
import Dlismodel.Proofs.Data
import Dlismodel.Generated.Obligations
namespace Dlis.C08
open Dlis

/-- representation code of a numpy dtype name (RP66 V1 App. B) -/
def codeOfDtype : String → Option Nat
  | "int8" => some 12 | "int16" => some 13 | "int32" => some 14
  | "uint8" => some 15 | "uint16" => some 16 | "uint32" => some 17
  | "float32" => some 2 | "float64" => some 7 | _ => none

/-- element size in bytes of a representation code used for channel data -/
def sizeOfCode : Nat → Option Nat
  | 12 => some 1 | 13 => some 2 | 14 => some 4 | 15 => some 1 | 16 => some 2 | 17 => some 4
  | 2 => some 4 | 7 => some 8 | _ => none

/-- the generated dtype → code table of the live package is exactly `codeOfDtype` -/
theorem dtype_table : ∀ p ∈ Generated.dtypeCodes, codeOfDtype p.1 = some p.2 := by decide

/-- what the writer puts into a channel's descriptor: code of the dtype written (the cast dtype if there is
one), DIMENSION = per-row shape ([1] for scalars), ELEMENT-LIMIT = the user's if it bounds the dimension, else
the dimension -/
structure ChanDesc where
  rc : Nat
  dimension : List Nat
  elementLimit : List Nat
  deriving Repr, DecidableEq

def bounds (el dim : List Nat) : Bool := dim.length ≤ el.length && (List.zipWith (fun e d => decide (d ≤ e)) el dim).all id

/-- per-row shape of the data: [w] for a 2-D dataset of width w, [1] for a 1-D one -/
def dimOf (width : Option Nat) : List Nat := match width with | some w => [w] | none => [1]

def channelDescriptor (dtype : String) (cast : Option String) (width : Option Nat) (userLimit : Option (List Nat)) :
    Option ChanDesc :=
  match codeOfDtype (cast.getD dtype), userLimit with
  | none, _ => none
  | some rc, none => some { rc := rc, dimension := dimOf width, elementLimit := dimOf width }
  | some rc, some el =>
    if el == dimOf width ∨ bounds el (dimOf width) then some { rc := rc, dimension := dimOf width, elementLimit := dimOf width }
    else none

theorem code_has_size {dtype : String} {rc : Nat} (h : codeOfDtype dtype = some rc) : (sizeOfCode rc).isSome := by
  unfold codeOfDtype at h
  split at h <;> cases h <;> rfl

/-- the descriptor determines the slot layout a reader uses, and it is the layout of the rows written -/
theorem descriptor_layout (dtype : String) (cast : Option String) (width : Option Nat) (ul : Option (List Nat))
    (d : ChanDesc) (h : channelDescriptor dtype cast width ul = some d) :
    codeOfDtype (cast.getD dtype) = some d.rc ∧ d.dimension = dimOf width ∧
      d.elementLimit = d.dimension ∧ (sizeOfCode d.rc).isSome := by
  unfold channelDescriptor at h
  split at h
  · cases h
  · next rc hc => cases h; exact ⟨hc, rfl, rfl, code_has_size hc⟩
  · next rc el hc =>
    split at h <;> cases h
    exact ⟨hc, rfl, rfl, code_has_size hc⟩

/-- the byte length of every frame-data record is reference + frame number + Σ code size × Π dimension over
the listed channels in listed order -/
theorem record_length (fr : ObName) (num : Int) (slots : List Slot) (b o n : Bytes)
    (ho : encObname fr = .ok o) (hn : encUvari num = .ok n) (h : frameDataBody fr num slots = .ok b) :
    b.length = o.length + n.length + layoutBytes (slots.map fun s => (s.size, s.elems.length)) := by
  rw [frameDataBody, ho, hn] at h
  cases h
  rw [layoutBytes_slots, List.length_append, List.length_append]

example : channelDescriptor "float64" (some "float32") (some 5) none =
    some { rc := 2, dimension := [5], elementLimit := [5] } := by decide
example : channelDescriptor "int16" none none (some [3]) = some { rc := 13, dimension := [1], elementLimit := [1] } := by
  decide

end Dlis.C08
