/-
  C03 — Channel data round-trips bit-exactly, one numbered record per row.

  A row is a list of slots (one per channel of the frame, in the frame's channel order), a slot is the element
  size of the channel's (cast) dtype and the elements' *bit patterns* — so NaN payloads, infinities, signed zero
  and integer extremes are all covered by the universal quantifier.  `frameRecords` is the model of
  MultiFrameData + SourceDataWrapper chunking + FrameData._make_body_bytes.

  PARTIAL in one respect: how numpy turns an array of any byte order / stride / layout / read-only flag (and a
  cast) into the logical element sequence is outside the model; the C03 correspondence feeds all those variants
  and compares with bit patterns the harness extracts independently.
-/
import Dlismodel.Proofs.Data
import Dlismodel.Model.Cast
import Dlismodel.Proofs.Convert
namespace Dlis.C03
open Dlis

/-- for every window and every input chunk size ≥ 1 the frame's records are exactly one per row of the window,
in order, numbered 1..N, each referencing the frame and decoding — under the layout (element size, elements per
row) its channels declare — to the row's bit patterns with nothing left over -/
theorem frame_data_roundtrip (frame : ObName) (rows : List (List Slot)) (fromIdx : Nat) (toIdx chunk : Option Nat)
    (hc : ∀ k, chunk = some k → 1 ≤ k) (hok : ∀ r ∈ rows, ∀ s ∈ r, SlotOk s) (bodies : List Bytes)
    (h : frameRecords frame rows fromIdx toIdx chunk = .ok bodies) :
    let w := window rows fromIdx toIdx
    bodies.length = w.length ∧
      ∀ i (hi : i < w.length) (hi' : i < bodies.length),
        decFrameData (w[i].map fun s => (s.size, s.elems.length)) bodies[i] =
          some ({ origin := frame.origin.toNat, copy := frame.copy.toNat, name := frame.name.map b8 },
                i + 1, w[i].map (·.elems)) := by
  intro w
  rw [frameRecords, chunkedRows_eq] at h
  obtain ⟨hl, hb⟩ := frameRecordsFrom_ok h
  refine ⟨hl, fun i hi hi' => ?_⟩
  have hs : ∀ s ∈ w[i], SlotOk s := hok _ (mem_of_mem_window (List.getElem_mem hi))
  simpa using decFrameData_frameDataBody hs (hb i hi hi')

/-- the window is exactly rows [from, to) -/
theorem window_rows {α : Type} (rows : List α) (fromIdx : Nat) (toIdx : Option Nat) (i : Nat)
    (h : fromIdx + i < toIdx.getD rows.length) (_h2 : toIdx.getD rows.length ≤ rows.length) :
    (window rows fromIdx toIdx)[i]? = rows[fromIdx + i]? := by
  rw [window, List.getElem?_drop, List.getElem?_take, if_pos h]

/-- a single element is its big-endian image: bit-exactness -/
theorem element_bits (size e : Nat) (rest : Bytes) (h : e < 256 ^ size) :
    rdN size (beN size e ++ rest) = some (e, rest) := rdN_beN size e rest h

/-! ### a declared cast between integer types (`Model/Cast.lean`) -/

/-- whatever integer the source holds, the element written under the cast type `t` exists (never an encoding error),
and under `t`'s representation code it decodes to `castInt t v`, which `t` holds -/
theorem cast_element_roundtrip (t : IntTy) (hb : 0 < t.bytes) (v : Int) :
    t.holds (castInt t v) ∧
    ∃ bs, encInt t (castInt t v) = .ok bs ∧ bs.length = t.bytes ∧
      ∀ rest, decInt t (bs ++ rest) = some (castInt t v, rest) := by
  obtain ⟨k, s⟩ := t
  have hp : (0 : Int) < (256 : Int) ^ k := Int.pow_pos (by decide)
  have he := pow256_even k hb
  have h0 := Int.emod_nonneg v (Int.ne_of_gt hp)
  have h1 := Int.emod_lt_of_pos v hp
  -- an unsigned type takes the residue; a signed one takes it down by the modulus from the middle on
  cases s <;> simp only [IntTy.holds, castInt, encInt, decInt, Bool.false_and, Bool.true_and, Bool.false_eq_true,
    ↓reduceIte, decide_eq_true_eq]
  · obtain ⟨bs, h⟩ := (encU_ok_iff k _).mpr ⟨h0, h1⟩
    exact ⟨⟨h0, h1⟩, bs, h, encU_length h, decU_encU h⟩
  · have hh : -((256 : Int) ^ k / 2) ≤ (if (256 : Int) ^ k / 2 ≤ v % 256 ^ k then v % 256 ^ k - 256 ^ k else v % 256 ^ k) ∧
        (if (256 : Int) ^ k / 2 ≤ v % 256 ^ k then v % 256 ^ k - 256 ^ k else v % 256 ^ k) < (256 : Int) ^ k / 2 := by
      split <;> constructor <;> omega
    obtain ⟨bs, h⟩ := (encS_ok_iff k _).mpr hh
    exact ⟨hh, bs, h, encS_length h, decS_encS hb h⟩

/-- a cast to a type that holds the value leaves it as it is: the decoded sample is the source sample -/
theorem cast_exact_when_held (t : IntTy) (hb : 0 < t.bytes) (v : Int) (h : t.holds v) : castInt t v = v := by
  obtain ⟨k, s⟩ := t
  cases s <;> simp only [IntTy.holds, castInt, Bool.false_and, Bool.true_and, Bool.false_eq_true, ↓reduceIte,
    decide_eq_true_eq] at h ⊢
  · exact Int.emod_eq_of_lt h.1 h.2
  · rw [emod_of_signed (pow256_even k hb) h.1 h.2]
    split
    · rw [if_neg (by omega)]
    · rw [if_pos (by omega), Int.add_sub_cancel]

/-- otherwise the written sample is the source sample modulo 2^bits (numpy's documented wrap-around), nothing else -/
theorem cast_wraps (t : IntTy) (v : Int) : castInt t v % (256 : Int) ^ t.bytes = v % (256 : Int) ^ t.bytes := by
  unfold castInt
  simp only
  split
  · rw [Int.sub_emod, Int.emod_self, Int.sub_zero, Int.emod_emod_of_dvd _ (Int.dvd_refl _), Int.emod_emod_of_dvd _ (Int.dvd_refl _)]
  · exact Int.emod_emod_of_dvd _ (Int.dvd_refl _)

/-- a declared cast of integer data to float64 loses nothing: the written double stands for exactly the source value -/
theorem cast_int_to_double_exact (t : IntTy) (hb : t.bytes ≤ 4) (v : Int) (h : t.holds v) :
    ∃ f, castIntToF64 v = some f ∧ f64ToInt f = some v := by
  -- four bytes are well within the 53 bits of `intToF64R_exact`
  obtain ⟨k, s⟩ := t
  have h2 : 256 ^ k ≤ 256 ^ 4 := Nat.pow_le_pow_right (by decide) hb
  have hc := pow_cast k
  refine intToF64R_exact v ?_
  cases s <;> simp only [IntTy.holds, Bool.false_eq_true, ↓reduceIte] at h <;> omega

example : castIntToF64 (-4294967295) = some 0xC1EFFFFFFFE00000 ∧ castIntToF32 16777217 = some 0x4B800000 := by decide +kernel

example : castInt ⟨1, false⟩ 300 = 44 ∧ castInt ⟨1, true⟩ 200 = -56 ∧ castInt ⟨2, true⟩ (-40000) = 25536 ∧
    castInt ⟨4, false⟩ (-1) = 4294967295 ∧ castInt ⟨2, false⟩ 65535 = 65535 := by decide

/-! non-vacuity: two rows, a float64 NaN payload / -0.0 and a 3-wide uint8 channel, chunk size 1 -/
example :
    let fr : ObName := { origin := 1, copy := 0, name := [70] }
    let rows : List (List Slot) :=
      [[{ size := 8, elems := [0x7FF8000000000001] }, { size := 1, elems := [0, 255, 7] }],
       [{ size := 8, elems := [0x8000000000000000] }, { size := 1, elems := [1, 2, 3] }]]
    ((frameRecords fr rows 0 none (some 1)).toOption.map fun bs =>
      bs.map (decFrameData [(8, 1), (1, 3)])) =
      some [some ({ origin := 1, copy := 0, name := [70] }, 1, [[0x7FF8000000000001], [0, 255, 7]]),
            some ({ origin := 1, copy := 0, name := [70] }, 2, [[0x8000000000000000], [1, 2, 3]])] := by
  decide +kernel

end Dlis.C03
