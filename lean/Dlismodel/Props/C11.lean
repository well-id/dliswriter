/-
  C11 — All data sources are equivalent and the row window selects exactly its rows.

  Every source kind (inline arrays merged into a dict, dict, structured array, HDF5 file) is modelled by what it
  denotes: datasets by name (`DataSrc`).  The kinds differ only in how names are looked up (default mapping,
  `dataset_name` mapping, leading-slash normalisation); the rows of a frame are a function of the datasets its
  channels map to.  PARTIAL: that numpy / h5py field access, slicing and the structured fast path really denote
  these datasets is outside the model; the C11 correspondence compares whole files for every window.
-/
import Dlismodel.Proofs.Data
namespace Dlis.C11
open Dlis

/-- two sources that agree on the datasets the frame's channels map to give the same rows — whatever else they
contain and in whatever order (field permutation, extra unused datasets, dict vs file) -/
theorem sources_agree (s1 s2 : DataSrc) (mapping : List PStr)
    (h : ∀ ds ∈ mapping, lookupDs s1 ds = lookupDs s2 ds) : frameRowsOf s1 mapping = frameRowsOf s2 mapping := by
  have : mapping.mapM (lookupDs s1) = mapping.mapM (lookupDs s2) := by
    induction mapping with
    | nil => rfl
    | cons m ms ih =>
      rw [List.forall_mem_cons] at h
      rw [List.mapM_cons, List.mapM_cons, h.1, ih h.2]
  unfold frameRowsOf
  rw [this]

/-- datasets placed before the ones looked up do not matter if they have other names -/
theorem lookup_skip (pre src : DataSrc) (name : PStr) (h : ∀ p ∈ pre, p.1 ≠ name) :
    lookupDs (pre ++ src) name = lookupDs src name := by
  induction pre with
  | nil => rfl
  | cons p ps ih =>
    rw [List.forall_mem_cons] at h
    simp [lookupDs, h.1, ih h.2]

/-- swapping two datasets with different names does not change any lookup: slot order follows the frame's
channel list, never the source's -/
theorem lookup_swap (a b : PStr × List Slot) (src : DataSrc) (name : PStr) (hab : a.1 ≠ b.1) :
    lookupDs (a :: b :: src) name = lookupDs (b :: a :: src) name := by
  -- if the first of the two is the one looked up, the other is not
  by_cases h : a.1 = name
  · subst h
    simp [lookupDs, Ne.symm hab]
  · simp [lookupDs, h]

/-- writing with a window equals writing the pre-sliced rows without one -/
theorem window_is_slice (frame : ObName) (rows : List (List Slot)) (fromIdx : Nat) (toIdx c : Option Nat) :
    frameRecords frame rows fromIdx toIdx c = frameRecords frame (window rows fromIdx toIdx) 0 none c := by
  rw [frameRecords, frameRecords, window_all]

/-- the window is exactly rows [from, to) -/
theorem window_rows_exact {α : Type} (rows : List α) (fromIdx toIdx : Nat) (h : toIdx ≤ rows.length) :
    window rows fromIdx (some toIdx) = (rows.drop fromIdx).take (toIdx - fromIdx) ∧
      (window rows fromIdx (some toIdx)).length = toIdx - fromIdx := by
  rw [window, Option.getD_some, List.drop_take]
  exact ⟨rfl, by rw [List.length_take, List.length_drop, Nat.min_eq_left (Nat.sub_le_sub_right h _)]⟩

theorem hdf5_path_normalised (p : PStr) : normPath (normPath p) = normPath p ∧ normPath (47 :: p) = 47 :: p := by
  -- `normPath p` is `p` if that begins with a slash and `47 :: p` if not: a path that `normPath` leaves alone, either way
  refine ⟨?_, rfl⟩
  rw [normPath.eq_def p]
  split <;> rfl

example : frameRowsOf [([66], [⟨1, [5]⟩, ⟨1, [6]⟩]), ([88], []), ([65], [⟨2, [7]⟩, ⟨2, [8]⟩])] [[65], [66]] =
    .ok [[⟨2, [7]⟩, ⟨1, [5]⟩], [⟨2, [8]⟩, ⟨1, [6]⟩]] := by decide +kernel

end Dlis.C11
