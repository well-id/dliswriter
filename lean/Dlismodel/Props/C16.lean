/-
  C16 — No-format payloads come back exactly, in order, under their object.
-/
import Dlismodel.Proofs.Iflr
import Dlismodel.Props.C02
namespace Dlis.C16
open Dlis

/-- the record body is the reference to the NO-FORMAT object followed by exactly the user's bytes: nothing
appended, removed or altered, for every payload length (empty, a single byte, many record capacities) -/
theorem noformat_roundtrip (nf : ObName) (payload b : Bytes) (h : noFormatBody nf payload = .ok b) :
    decNoFormat b = some ({ origin := nf.origin.toNat, copy := nf.copy.toNat, name := nf.name.map b8 }, payload) := by
  simp only [noFormatBody, bind_ok, pure_ok] at h
  obtain ⟨o, ho, rfl⟩ := h
  exact decObname_encObname ho payload

/-- the body's length is the reference plus the payload: no in-body padding -/
theorem noformat_length (nf : ObName) (payload b o : Bytes) (ho : encObname nf = .ok o)
    (h : noFormatBody nf payload = .ok b) : b.length = o.length + payload.length := by
  rw [noFormatBody, ho] at h
  cases h
  simp

/-- records keep the order in which they were added and survive framing whatever their size (C02) -/
theorem noformat_order_preserved (c : Cfg) (before after : List Rec) (bodies : List Bytes) (out : Bytes)
    (hb : ∀ r ∈ before, r.type < 256) (ha : ∀ r ∈ after, r.type < 256)
    (h : frameFile c (before ++ bodies.map (fun b => Rec.mk false 1 b) ++ after) = .ok out) :
    readFile c out = some ((before ++ bodies.map (fun b => Rec.mk false 1 b) ++ after).filter
      (fun r => !r.body.isEmpty)) := by
  apply C02.segmentation_lossless c _ out _ h
  intro r hr
  simp only [List.mem_append, List.mem_map] at hr
  rcases hr with (hr | ⟨b, _, rfl⟩) | hr
  · exact hb r hr
  · show (1 : Nat) < 256; decide
  · exact ha r hr

example : (noFormatBody { origin := 1, copy := 0, name := [78] } [97, 98]).toOption.bind decNoFormat =
    some ({ origin := 1, copy := 0, name := [78] }, [97, 98]) := by decide +kernel

end Dlis.C16
