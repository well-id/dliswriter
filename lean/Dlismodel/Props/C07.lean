/-
  C07 — Object identity is unique and every reference resolves in its logical file.

  Model: `Model/Api.lean` (registries, copy numbers, origin numbering / back-filling).  Proved for every history of
  add_* calls (valid or rejected, any interleaving between logical files):
  * `copy_unique_reachable`: two objects of one type and name added through one logical file never share a copy
    number, whatever sets of that type they are in (after the repair recorded in KNOWN_FINDINGS.json; before it the
    numbering was per set and the statement held per set only), hence (set type, origin, copy, name) identifies an
    object uniquely within a logical file's inventory;
  * `reference_bytes`: the bytes written for a reference (OBNAME / OBJREF attribute value, or the reference that
    opens an indirectly formatted record) are the encoding of the target's identity, which the strict decoder
    returns (C06), i.e. a reference decodes to the identity of the object passed by the user;
  * `accepted_references_resolve` (write-time checks, `Model/Checks.lean`): in every reachable state that `write`
    accepts, every object held by an attribute of an object — a frame's channels included — was added through the
    same logical file as its holder, is emitted in one of that logical file's set records, and is the only object
    of that logical file with its (set type, name, copy number): the reference resolves, to exactly one object, in its
    logical file; `foreign_reference_refused` is the contrapositive the user sees, `own_references_accepted` says the
    reference check refuses nothing else (no false refusals), `frame_channels_registered` the same for a frame's
    channels.
  * `origin_backfilled`: an object created before the first origin of its logical file carries that origin's
    reference afterwards.
-/
import Dlismodel.Proofs.Api
import Dlismodel.Proofs.Checks
import Dlismodel.Proofs.Prim
namespace Dlis.C07
open Dlis

theorem copy_unique_reachable (n : Nat) (ops : List Op) (hv : ∀ op ∈ ops, op.lf < n)
    (i j : Nat) (hi : i < (run (World.init n) ops).items.length) (hj : j < (run (World.init n) ops).items.length)
    (hij : i ≠ j)
    (hl : (run (World.init n) ops).items[i].lf = (run (World.init n) ops).items[j].lf)
    (hk : (run (World.init n) ops).items[i].kind = (run (World.init n) ops).items[j].kind)
    (hn : (run (World.init n) ops).items[i].name = (run (World.init n) ops).items[j].name) :
    (run (World.init n) ops).items[i].copy ≠ (run (World.init n) ops).items[j].copy :=
  copy_unique _ (run_invariants n ops hv).2 i j hi hj hij hl hk hn

/-- the configuration that used to break it (two same-named objects of one type in differently named sets of one
logical file) -/
example :
    let w := run (World.init 1) [.origin 0 none [79] none .ok, .item 0 3 none [67] none .ok, .item 0 3 (some [83]) [67] none .ok,
      .item 0 3 none [67] none .ok]
    w.items.map (·.copy) = [0, 0, 1, 2] := by decide +kernel

/-- a reference is written as the target's (origin, copy, name) and reads back as exactly that -/
theorem reference_bytes (target : ObName) (b rest : Bytes) (h : encObname target = .ok b) :
    decObname (b ++ rest) = some ({ origin := target.origin.toNat, copy := target.copy.toNat,
                                    name := target.name.map b8 }, rest) :=
  decObname_encObname h rest

theorem objref_bytes (setType : PStr) (target : ObName) (b rest : Bytes) (h : encObjref setType target = .ok b) :
    decObjref (b ++ rest) = some ((setType.map b8, { origin := target.origin.toNat, copy := target.copy.toNat,
                                                     name := target.name.map b8 }), rest) :=
  decObjref_encObjref h rest

/-- back-filling: after the first origin of a logical file is added, no object registered in one of that
logical file's sets is left without an origin reference -/
theorem origin_backfilled (w : World) (lf : Nat) (r : Int) :
    ∀ it ∈ (backfill w lf r).items, it.key ∈ lfKeys w lf → it.origin.isSome := by
  intro it hit hk
  simp only [backfill, List.mem_map] at hit
  obtain ⟨x, _, rfl⟩ := hit
  by_cases hc : x.origin.isNone = true ∧ x.key ∈ lfKeys w lf
  · rw [if_pos hc]; rfl
  · rw [if_neg hc] at hk ⊢
    cases ho : x.origin with
    | some _ => rfl
    | none => exact absurd ⟨by simp [ho], hk⟩ hc

/-- a new object takes the explicit origin reference if one is given (and non-zero), else the reference of the
logical file's defining origin -/
theorem origin_choice (oref dflt : Option Int) :
    pickOrigin oref dflt = (match oref with | some r => if r ≠ 0 then some r else dflt | none => dflt) := rfl

example : (run (World.init 1) [.item 0 3 none [65] none .ok, .item 0 3 none [65] none .rejectLate,
    .origin 0 none [79] none .ok, .item 0 3 none [65] (some 7) .ok]).items.map (fun i => (i.origin, i.copy)) =
    [(some 0, 0), (some 0, 0), (some 7, 1)] := by decide +kernel

/-! ### every reference resolves in its logical file (write-time checks) -/

/-- In every state reachable by add_* calls that `write` accepts, with any reference edges between the objects: the
object a reference points to was added through the holder's logical file, is emitted in a set record of that
logical file, and no other object of that logical file has its set type, name and copy number. -/
theorem accepted_references_resolve (n : Nat) (ops : List Op) (hv : ∀ op ∈ ops, op.lf < n)
    (c f : Nat) (es : List Edge) (fid : Nat → Bool)
    (hacc : acceptWrite (run (World.init n) ops) c f es fid = .ok ())
    (e : Edge) (he : e ∈ es) (hh : e.holder < (run (World.init n) ops).items.length) :
    ∃ ht : e.target < (run (World.init n) ops).items.length,
      let w := run (World.init n) ops
      w.items[e.target].lf = w.items[e.holder].lf ∧
      (∃ its, (w.items[e.target].key, its) ∈ setRecords w w.items[e.holder].lf ∧ w.items[e.target] ∈ its) ∧
      ∀ j (hj : j < w.items.length), w.items[j].lf = w.items[e.holder].lf → w.items[j].kind = w.items[e.target].kind →
        w.items[j].name = w.items[e.target].name → w.items[j].copy = w.items[e.target].copy → j = e.target := by
  obtain ⟨hreg, hcopy⟩ := run_invariants n ops hv
  obtain ⟨ht, hsame⟩ := references_stay_inside _ hreg c f es fid hacc e he hh
  refine ⟨ht, hsame, hsame ▸ records_complete _ hreg _ (List.getElem_mem ht), fun j hj h1 h2 h3 h4 => ?_⟩
  exact Decidable.byContradiction fun hjt => copy_unique _ hcopy j e.target hj ht hjt (h1.trans hsame.symm) h2 h3 h4

/-- what the user sees: a specification in which some attribute holds an object of another logical file is refused -/
theorem foreign_reference_refused (n : Nat) (ops : List Op) (hv : ∀ op ∈ ops, op.lf < n)
    (c f : Nat) (es : List Edge) (fid : Nat → Bool) (e : Edge) (he : e ∈ es)
    (hh : e.holder < (run (World.init n) ops).items.length) (ht : e.target < (run (World.init n) ops).items.length)
    (hne : (run (World.init n) ops).items[e.target].lf ≠ (run (World.init n) ops).items[e.holder].lf) :
    acceptWrite (run (World.init n) ops) c f es fid ≠ .ok () := by
  intro hacc
  obtain ⟨_, h, _⟩ := accepted_references_resolve n ops hv c f es fid hacc e he hh
  exact hne h

/-- no false refusals: when no set is shared, the reference check of a logical file passes if every reference stays
within the logical file of its holder (and all targets exist) -/
theorem own_references_accepted (n : Nat) (ops : List Op) (hv : ∀ op ∈ ops, op.lf < n) (es : List Edge)
    (hns : sharedSet (run (World.init n) ops) = false)
    (hown : ∀ e ∈ es, ∀ hh : e.holder < (run (World.init n) ops).items.length,
      ∃ ht : e.target < (run (World.init n) ops).items.length,
        (run (World.init n) ops).items[e.target].lf = (run (World.init n) ops).items[e.holder].lf) (lf : Nat) :
    checkReferences (run (World.init n) ops) lf es = .ok () := by
  obtain ⟨hreg, _⟩ := run_invariants n ops hv
  have hn := noShared_of_sharedSet _ hns
  rw [checkReferences_iff]
  intro e he hin
  obtain ⟨hh, _⟩ := (inLf_iff _ _ _).mp hin
  obtain ⟨ht, hsame⟩ := hown e he hh
  exact (inLf_iff_lf _ hreg hn lf _ ht).mpr (hsame.trans ((inLf_iff_lf _ hreg hn lf _ hh).mp hin))

/-- frame to channels: in an accepted state every object a frame of a logical file holds as a channel is an object of
a CHANNEL set of that logical file -/
theorem frame_channels_registered (n : Nat) (ops : List Op) (c f : Nat) (es : List Edge) (fid : Nat → Bool)
    (hacc : acceptWrite (run (World.init n) ops) c f es fid = .ok ())
    (e : Edge) (he : e ∈ es) (hvia : e.viaChannels = true) (lf : Nat) (hlf : lf < (run (World.init n) ops).keys.length)
    (hh : e.holder < (run (World.init n) ops).items.length)
    (hk : (run (World.init n) ops).items[e.holder].kind = f)
    (hin : (run (World.init n) ops).items[e.holder].key ∈ lfKeys (run (World.init n) ops) lf) :
    ∃ ht : e.target < (run (World.init n) ops).items.length,
      (run (World.init n) ops).items[e.target].kind = c ∧
      (run (World.init n) ops).items[e.target].key ∈ lfKeys (run (World.init n) ops) lf := by
  obtain ⟨hin', hk'⟩ := (checkFrameChannels_iff _ lf c f es).mp (accepted_checks hacc hlf).2.1 e he hvia
    ((inLf_iff _ _ _).mpr ⟨hh, hin⟩) ((kindAt_iff _ _ _).mpr ⟨hh, hk⟩)
  obtain ⟨ht, hkey⟩ := (inLf_iff _ _ _).mp hin'
  exact ⟨ht, ((kindAt_iff _ _ _).mp hk').2, hkey⟩

/-- non-vacuity: two logical files, a frame holding its own channel (accepted) / the other file's channel (refused) -/
example :
    let w := run (World.init 2) [.origin 0 (some [48]) [79] none .ok, .item 0 11 (some [48]) [67] none .ok,
      .item 0 12 (some [48]) [70] none .ok, .origin 1 (some [49]) [79] none .ok, .item 1 11 (some [49]) [67] none .ok,
      .item 1 12 (some [49]) [70] none .ok]
    acceptWrite w 11 12 [⟨2, 1, true⟩, ⟨5, 4, true⟩, ⟨4, 3, false⟩] (fun _ => true) = .ok () ∧
    acceptWrite w 11 12 [⟨2, 4, true⟩] (fun _ => true) = .error .channelNotRegistered ∧
    acceptWrite w 11 12 [⟨4, 1, false⟩] (fun _ => true) = .error .foreignReference := by decide +kernel

end Dlis.C07
