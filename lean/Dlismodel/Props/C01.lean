/-
  C01 — Physical layout: label, visible records and segments are well-formed.

  `readSegs` accepts a byte string iff it is: the 80-byte label whose five justified fields are exactly those
  of the configuration (`checkSul`), followed to the very end by visible records, each with a length field
  that is even, between 20 and the configured maximum and equal to the bytes present, the 0xFF 0x01 marker,
  and a body tiled exactly by segments whose declared length is even, at least 16 and equal to the bytes
  present, whose reserved attribute bits (encryption, encryption packet, checksum, trailing length) are clear
  and whose padding bit is set iff a pad count 1..len is found at the end (`Model/Parse.lean`).
  The theorem: every successful `frameFile` output is accepted, for every record list and configuration.
  `layout_explicit` spells the same out without the reader.
-/
import Dlismodel.Proofs.Seg
namespace Dlis.C01
open Dlis

theorem readSegs_frameFile (c : Cfg) (recs : List Rec) (out : Bytes) (ht : ∀ r ∈ recs, r.type < 256)
    (h : frameFile c recs = .ok out) :
    readSegs c out = some (recs.flatMap (segsOf (c.vrl.toNat - 8))) := by
  obtain ⟨hv, sul, hsul, rfl⟩ := frameFile_eq_ok.mp h
  obtain ⟨cap, hcap, _, h12, hev, hle⟩ := vrlValid_cap hv
  rw [readSegs_append _ hsul hv, hcap, Nat.add_sub_cancel]
  refine parseVRs_map cap h12 hev hle _ _ ?_ (by simp [frameRecs])
  intro s hs
  obtain ⟨r, hr, hs⟩ := List.mem_flatMap.mp hs
  exact segsOf_ok _ h12 r (ht r hr) s hs

/-- physical layout (C01): every successful output is accepted by the strict physical reader -/
theorem layout_wellformed (c : Cfg) (recs : List Rec) (out : Bytes) (ht : ∀ r ∈ recs, r.type < 256)
    (h : frameFile c recs = .ok out) : ∃ segs, readSegs c out = some segs :=
  ⟨_, readSegs_frameFile c recs out ht h⟩

/-- the same, spelled out: label of 80 bytes, then one visible record per segment; every segment length is
even, between 16 and the record length minus 4; every visible record length is even, between 20 and the
maximum; the number of pad bytes is the pad count written in each of them (at most 12, and exactly the
parity byte once the body has 12 bytes) -/
theorem layout_explicit (c : Cfg) (recs : List Rec) (out : Bytes) (ht : ∀ r ∈ recs, r.type < 256)
    (h : frameFile c recs = .ok out) :
    ∃ sul, sulBytes c = .ok sul ∧ sul.length = 80 ∧
      out = sul ++ ((recs.flatMap (segsOf (c.vrl.toNat - 8))).map (fun s => encVR (encSeg s))).flatten ∧
      ∀ s ∈ recs.flatMap (segsOf (c.vrl.toNat - 8)),
        (encSeg s).length = segLen s ∧ 16 ≤ segLen s ∧ segLen s % 2 = 0 ∧ (segLen s : Int) + 4 ≤ c.vrl ∧
        (encVR (encSeg s)).length = segLen s + 4 ∧ padLen s.payload.length ≤ 12 ∧
        (12 ≤ s.payload.length → padLen s.payload.length = s.payload.length % 2) := by
  obtain ⟨hv, sul, hsul, rfl⟩ := frameFile_eq_ok.mp h
  obtain ⟨cap, hcap, hcap', h12, hev, _⟩ := vrlValid_cap hv
  refine ⟨sul, hsul, sulBytes_length hsul, rfl, ?_⟩
  rw [hcap, Nat.add_sub_cancel, hcap']
  intro s hs
  obtain ⟨r, hr, hs⟩ := List.mem_flatMap.mp hs
  have hb := segLen_bounds cap s h12 hev (segsOf_ok cap h12 r (ht r hr) s hs)
  have hp := padLen_spec s.payload.length
  exact ⟨encSeg_length s, hb.1, hb.2.2, by omega, by rw [encVR_length, encSeg_length], hp.2.2.1, hp.2.2.2.1⟩

/-- the label is exactly the five justified fields of the configuration -/
theorem label_fields (c : Cfg) (sul : Bytes) (h : sulBytes c = .ok sul) :
    ∃ a b d e f, justify c.seq 4 false = .ok a ∧ justify sV100 5 true = .ok b ∧ justify sRECORD 6 false = .ok d ∧
      justify (intStr c.vrl) 5 false = .ok e ∧ justify c.setId 60 true = .ok f ∧ sul = a ++ b ++ d ++ e ++ f := by
  simp only [sulBytes, bind_ok, pure_ok] at h
  obtain ⟨a, ha, b, hb, d, hd, e, he, f, hf, rfl⟩ := h
  exact ⟨a, b, d, e, f, ha, hb, hd, he, hf, rfl⟩

example : sulBytes { vrl := 8192, seq := [49], setId := [65, 66] } =
    .ok ([32, 32, 32, 49] ++ [86, 49, 46, 48, 48] ++ [82, 69, 67, 79, 82, 68] ++ [32, 56, 49, 57, 50]
      ++ ([65, 66] ++ List.replicate 58 32)) := by decide +kernel

end Dlis.C01
