/-
  C13 — Frame index metadata is truthful for the rows written.
  PARTIAL: float rounding inside numpy (`diff`, `median`, division), NaN ordering and the conversion of the
  derived numbers to FDOUBL are outside the model; the correspondence uses all integer dtypes and float data
  whose values and differences are exact, away from the tolerance boundary.  Values derived at one write
  persist into the next (known finding, DESIGN.md): the theorems speak about one write of a fresh specification.
-/
import Dlismodel.Proofs.FrameIdx
import Dlismodel.Model.Index
namespace Dlis.C13
open Dlis

/-- folding a list with an operation whose result is below both arguments (in a preorder `R`) ends below the start
and every element -/
theorem foldl_bound {α : Type} {op : α → α → α} {R : α → α → Prop} (refl : ∀ a, R a a)
    (trans : ∀ {a b c}, R a b → R b c → R a c) (hop : ∀ a b, R (op a b) a ∧ R (op a b) b) (xs : List α) (a : α) :
    R (xs.foldl op a) a ∧ ∀ x ∈ xs, R (xs.foldl op a) x := by
  induction xs generalizing a with
  | nil => exact ⟨refl a, nofun⟩
  | cons y ys ih =>
    obtain ⟨h1, h2⟩ := ih (op a y)
    refine ⟨trans h1 (hop a y).1, fun x hx => ?_⟩
    rcases List.mem_cons.1 hx with rfl | hx
    · exact trans h1 (hop a x).2
    · exact h2 x hx

/-- … and, if the operation returns one of its arguments, at the start or an element -/
theorem foldl_select {α : Type} {op : α → α → α} (hop : ∀ a b, op a b = a ∨ op a b = b) (xs : List α) (a : α) :
    xs.foldl op a ∈ a :: xs := by
  induction xs generalizing a with
  | nil => exact .head _
  | cons y ys ih =>
    rcases List.mem_cons.1 (ih (op a y)) with h | h
    · rw [List.foldl_cons, h]
      rcases hop a y with h | h <;> rw [h]
      · exact .head _
      · exact .tail _ (.head _)
    · exact .tail _ (.tail _ h)

/-- INDEX-MIN / INDEX-MAX are the least and greatest index value of the rows written -/
theorem index_min_max (xs : List Int) (hne : xs ≠ []) :
    ∃ lo hi, (indexAttrs xs).imin = some lo ∧ (indexAttrs xs).imax = some hi ∧ lo ∈ xs ∧ hi ∈ xs ∧
      ∀ x ∈ xs, lo ≤ x ∧ x ≤ hi := by
  cases xs with
  | nil => exact absurd rfl hne
  | cons a as =>
    have hmin := foldl_bound (R := (· ≤ ·)) Int.le_refl Int.le_trans
      (fun a b => ⟨Int.min_le_left a b, Int.min_le_right a b⟩) as a
    have hmax := foldl_bound (R := (· ≥ ·)) Int.le_refl (fun h1 h2 => Int.le_trans h2 h1)
      (fun a b => ⟨Int.le_max_left a b, Int.le_max_right a b⟩) as a
    refine ⟨as.foldl min a, as.foldl max a, rfl, rfl, foldl_select (fun a b => by omega) as a,
      foldl_select (fun a b => by omega) as a, fun x hx => ?_⟩
    rcases List.mem_cons.1 hx with rfl | hx
    · exact ⟨hmin.1, hmax.1⟩
    · exact ⟨hmin.2 x hx, hmax.2 x hx⟩

/-- uniform differences: SPACING is that signed difference (and no DIRECTION is written) -/
theorem spacing_uniform (ds : List Int) (d : Int) (hne : ds ≠ []) (h : ∀ x ∈ ds, x = d) :
    spacingOf ds = .exact d := by
  cases ds with
  | nil => exact absurd rfl hne
  | cons a as =>
    have ha : a = d := h a (by simp)
    subst ha
    simp only [spacingOf]
    rw [if_pos]
    simp only [List.all_eq_true, beq_iff_eq]
    intro x hx
    exact h x (by simp [hx])

/-- SPACING is present only when every difference is within the documented tolerance of the value written -/
theorem spacing_present_only_if_uniform (ds : List Int) :
    (∀ d, spacingOf ds = .exact d → ∀ x ∈ ds, x = d) ∧
    (∀ m2, spacingOf ds = .median m2 → m2 = median2 ds ∧ m2 ≠ 0 ∧ ∀ x ∈ ds, 1000 * (m2 - 2 * x) ^ 2 < m2 ^ 2) := by
  cases ds with
  | nil => simp [spacingOf]
  | cons a as =>
    simp only [spacingOf]
    constructor
    · intro d hd
      split at hd
      · rename_i hall
        simp at hd; subst hd
        intro x hx
        simp only [List.mem_cons] at hx
        rcases hx with rfl | hx
        · rfl
        · simp only [List.all_eq_true, beq_iff_eq] at hall
          exact hall x hx
      · split at hd
        · simp at hd
        · split at hd <;> simp at hd
    · intro m2 hm
      split at hm
      · simp at hm
      · split at hm
        · simp at hm
        · rename_i hne0
          split at hm
          · rename_i htol
            simp at hm; subst hm
            refine ⟨rfl, hne0, ?_⟩
            simp only [withinTol, List.all_eq_true, decide_eq_true_eq] at htol
            exact htol
          · simp at hm

/-- without SPACING, DIRECTION reflects the monotonic sense if there is one -/
theorem direction_sense (ds : List Int) :
    (direction ds = some true ↔ ((∀ x ∈ ds, 0 ≤ x) ∧ ∃ x ∈ ds, x ≠ 0)) ∧
    (direction ds = some false ↔ ((∀ x ∈ ds, x ≤ 0) ∧ (∃ x ∈ ds, x ≠ 0) ∧ ∃ x ∈ ds, x < 0)) := by
  -- the two existential statements are the negations of the first two tests of `direction`
  have hz : (∃ x ∈ ds, x ≠ 0) ↔ ¬∀ x ∈ ds, x = 0 := by simp
  have hn : (∃ x ∈ ds, x < 0) ↔ ¬∀ x ∈ ds, 0 ≤ x := by simp
  unfold direction
  simp only [List.all_eq_true, beq_iff_eq, decide_eq_true_eq, hz, hn]
  constructor <;> constructor
  · intro h
    split at h; · cases h
    split at h
    · exact ⟨‹_›, ‹_›⟩
    · split at h <;> cases h
  · intro ⟨h1, h0⟩
    rw [if_neg h0, if_pos h1]
  · intro h
    split at h; · cases h
    split at h; · cases h
    split at h
    · exact ⟨‹_›, ‹_›, ‹_›⟩
    · cases h
  · intro ⟨h2, h0, h1⟩
    rw [if_neg h0, if_neg h1, if_pos h2]

/-- DIRECTION is written only when there is no SPACING -/
theorem direction_only_without_spacing (xs : List Int) :
    (indexAttrs xs).direction ≠ none → (indexAttrs xs).spacing = .absent := by
  intro h
  unfold indexAttrs at *
  simp only at *
  split at h <;> simp_all

/-- any of these values supplied by the user is written unchanged -/
theorem user_values_unchanged {α : Type} (u : α) (v : Option α) : assignIfNone (some u) v = some u := rfl

/-- a single row: no differences, hence neither SPACING nor DIRECTION -/
theorem single_row (x : Int) : (indexAttrs [x]).spacing = .absent ∧ (indexAttrs [x]).direction = none := by
  simp [indexAttrs, diffs, spacingOf, direction]

example : indexAttrs [9, 7, 5, 3] = { imin := some 3, imax := some 9, spacing := .exact (-2), direction := none } := by
  decide
example : (indexAttrs [0, 1000, 2001, 3001]).spacing = .median 2000 := by decide +kernel
example : indexAttrs [1, 2, 4, 8] = { imin := some 1, imax := some 8, spacing := .absent, direction := some true } := by
  decide +kernel

/-! Life cycle (`Model/FrameIdx.lean`): the index attributes written are derived from the rows of THIS write, whatever
earlier writes of the same frame derived, and what the user assigned is kept through all of them. -/
theorem index_attributes_follow_each_write (h : List (Bool × Bool × List Int)) (hc indexed : Bool) (xs : List Int)
    (s : FrameIdx) :
    frameSetup hc indexed xs (frameHistory h s) = frameSetup hc indexed xs s.forget :=
  frameSetup_after_any_history h hc indexed xs s

theorem user_index_attributes_survive (h : List (Bool × Bool × List Int)) (mn mx sp : Option Int) (di : Option Bool) :
    (frameHistory h (FrameIdx.user mn mx sp di)).forget = FrameIdx.user mn mx sp di :=
  frameHistory_user h _

example :
    let s1 := (frameSetup false true [1, 2, 4, 8] (FrameIdx.user none none none none)).1
    let s2 := (frameSetup false true [10, 12, 14] s1).1
    s1.direction.held = some true ∧ s2.direction.held = none ∧ s2.spacing.held = some 4 ∧ s2.imin.held = some 10 := by
  decide +kernel

end Dlis.C13
