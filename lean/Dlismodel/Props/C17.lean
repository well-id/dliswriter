/-
  C17 — High-compatibility mode enforces its restrictions and never leaks.
  PARTIAL: the regular-expression engine (`re.fullmatch`) is trusted to implement the pattern pinned by
  Obligations.hcPattern_eq; the correspondence enumerates every code point < 256 (and samples beyond) in every
  position.  That *every* restricted aspect is checked on the path to a successful write is tied by the C17
  correspondence (each aspect violated / met, inside / outside the mode), not by a whole-pipeline theorem.
-/
import Dlismodel.Model.Hc
import Dlismodel.Generated.Obligations
import Dlismodel.Proofs.Convert
import Dlismodel.Proofs.Checks
namespace Dlis.C17
open Dlis

/-- a well-bracketed sequence leaves flag and stack as they were, whatever follows it -/
theorem hcRun_bracketed {ops : List HcOp} (h : Bracketed ops) :
    ∀ (s : HcState) (rest : List HcOp), hcRun s (ops ++ rest) = hcRun s rest := by
  induction h with
  | nil => intro s rest; rfl
  | other _ ih => exact ih
  | @ctx a b _ _ iha ihb =>
    intro s rest
    have e : (HcOp.enter :: a ++ HcOp.leave :: b) ++ rest = HcOp.enter :: (a ++ HcOp.leave :: (b ++ rest)) := by simp
    -- entering pushes the flag, `a` changes nothing, leaving pops it
    rw [e]
    exact (iha { flag := true, saved := s.flag :: s.saved } _).trans (ihb s rest)

/-- leaving the context — normally or by an exception, nested or not, whatever calls (failing or not) happen
inside — restores the previous mode: after any well-bracketed sequence the flag and the stack are as before -/
theorem hc_restored (ops : List HcOp) (h : Bracketed ops) : ∀ s, hcRun s ops = s := by
  intro s
  have := hcRun_bracketed h s []
  rwa [List.append_nil] at this

/-- inside the context the mode is on -/
theorem hc_on_inside (s : HcState) (inner : List HcOp) (h : Bracketed inner) :
    (hcRun s (HcOp.enter :: inner)).flag = true := by
  show (hcRun { flag := true, saved := s.flag :: s.saved } inner).flag = true
  rw [hc_restored inner h]

/-- names: in the mode a string is accepted only if it matches [A-Z0-9_-]+; outside everything is accepted -/
theorem names_restricted (s : PStr) :
    ((∃ r, validateString true s = .ok r) ↔ (s ≠ [] ∧ ∀ c ∈ s, hcChar c = true)) ∧ validateString false s = .ok s := by
  have hs : hcString s = true ↔ s ≠ [] ∧ ∀ c ∈ s, hcChar c = true := by simp [hcString]
  refine ⟨?_, rfl⟩
  rw [← hs]
  unfold validateString
  cases hcString s <;> simp

/-- the character class is exactly A-Z, 0-9, underscore, dash -/
theorem hcChar_class (c : Nat) : hcChar c = true ↔ ((65 ≤ c ∧ c ≤ 90) ∨ (48 ≤ c ∧ c ≤ 57) ∨ c = 95 ∨ c = 45) := by
  simp [hcChar, Bool.or_eq_true, Bool.and_eq_true, or_assoc]

/-- enumerated attributes (units, index type, equipment type and location, ...): in the mode only members pass;
outside, a soft converter accepts anything (with a warning), a strict one only members -/
theorem enum_restricted (soft : Bool) (members : List PStr) (v : PStr) :
    ((∃ r, enumConvert true soft members v = .ok r) ↔ v ∈ members) ∧
    ((∃ r, enumConvert false soft members v = .ok r) ↔ (v ∈ members ∨ soft = true)) := by
  by_cases h : v ∈ members <;> cases soft <;> simp [enumConvert, h]

/-- signed-integer channel data, channels in no or several frames: raise in the mode, warn outside -/
theorem breach_raises_iff (hc violated : Bool) :
    (∃ e, raiseOrWarn hc violated = .error e) ↔ (hc = true ∧ violated = true) := by
  cases hc <;> cases violated <;> simp [raiseOrWarn]

/-- file set numbers the writer assigns in the mode are 1, 2, ... in order; a supplied one is kept -/
theorem file_set_numbers (ordinal random : Nat) (n : Nat) :
    hcFileSetNumber true none ordinal random = ordinal ∧ hcFileSetNumber true (some n) ordinal random = n ∧
      hcFileSetNumber false (some n) ordinal random = n := ⟨rfl, rfl, rfl⟩

/-- the pattern the live package compiles is the pinned one -/
theorem pattern_pinned : Generated.hcPattern = "[A-Z0-9_-]+" := Obligations.hcPattern_eq

example : Bracketed [.enter, .other, .enter, .other, .leave, .leave, .other] :=
  Bracketed.ctx (s := [.other, .enter, .other, .leave]) (t := [.other])
    (Bracketed.other (Bracketed.ctx (s := [.other]) (t := []) (Bracketed.other Bracketed.nil) Bracketed.nil))
    (Bracketed.other Bracketed.nil)
example : hcRun { flag := false, saved := [] } [.enter, .other, .enter, .other, .leave, .leave, .other] =
    { flag := false, saved := [] } := by decide
example : validateString true [65, 97] = .error .value ∧ validateString true [65, 45, 57] = .ok [65, 45, 57] := by decide

/-! ### the mode at the attribute setters (`Model/Convert.lean`, instantiated from the pinned converter table) -/

/-- in the mode a name-like attribute (AXIS-ID, SERIAL-NUMBER, … — every attribute whose pinned converter is
`validate_string`) accepts only non-empty strings over `[A-Z0-9_-]`, and holds them unchanged -/
theorem setter_names_restricted {rc : Except Err (Option Nat)} {mem : List PStr} {v r : PyVal}
    (h : applyConv .validateString true rc mem v = .ok r) : ∃ s ec p, r = .str s ec p ∧ r = v ∧ hcString s = true := by
  obtain ⟨rfl, s, ec, p, rfl, hs⟩ := validateString_spec h
  exact ⟨s, ec, p, rfl, rfl, hs rfl⟩

/-- in the mode every enumerated attribute (units, index type, equipment type and location, …) holds a member of
its enumeration — or nothing, where that is allowed; a soft converter is strict there -/
theorem setter_enums_restricted {cls : String} {soft an : Bool} {rc : Except Err (Option Nat)} {mem : List PStr}
    {v r : PyVal} (h : applyConv (.enum cls soft an) true rc mem v = .ok r) :
    (r = .none ∧ v = .none ∧ an = true) ∨
    (∃ s ec p, v = .str s ec p ∧ r = .str s (if ec = some cls then none else ec) p ∧
      (ec = some cls ∨ mem.contains s = true)) :=
  enum_strict (by simp) h

/-- outside the mode a soft enumeration accepts (with a warning) any string, unchanged -/
theorem setter_soft_outside {cls : String} {an : Bool} {rc : Except Err (Option Nat)} {mem : List PStr}
    (s : PStr) (p : StrParse) :
    applyConv (.enum cls true an) false rc mem (.str s none p) = .ok (.str s none p) := by
  simp [applyConv]

/-- units: the setter applies the (soft, None-allowed) unit enumeration, so in the mode only the standard's unit
symbols are accepted -/
theorem units_restricted {a : AttrSpec} {um : List PStr} {st st' : AttrState} {u : PyVal}
    (h : setUnits a true um st u = .ok st') :
    (u = .none ∧ st'.units = none) ∨ ∃ s ec p, u = .str s ec p ∧ st'.units = some s ∧ (ec = some "Unit" ∨ um.contains s = true) := by
  unfold setUnits at h
  split at h
  · simp at h
  · split at h
    · simp at h
    · rename_i r hr
      rcases enum_strict (by simp) hr with ⟨_, hu, _⟩ | ⟨s, ec, p, hu, _, hm⟩
      · subst hu; simp at h; exact Or.inl ⟨rfl, by rw [← h]⟩
      · subst hu; simp at h; exact Or.inr ⟨s, ec, p, rfl, by rw [← h], hm⟩

/-! ### channels in no or several frames (`Model/Checks.lean`) -/

/-- in the mode, a write that is accepted has every channel of every logical file listed exactly once by the frames of
that logical file -/
theorem channels_in_exactly_one_frame (w : World) (c f : Nat) (es : List Edge) (fid : Nat → Bool)
    (h : acceptWriteHc true w c f es fid = .ok ()) (lf : Nat) (hlf : lf < w.keys.length)
    (i : Nat) (hi : i < w.items.length) (hk : w.items[i].kind = c) (hin : w.items[i].key ∈ lfKeys w lf) :
    channelUses w lf f es i = 1 := by
  have hc := ((checkObjectsHc_iff true w lf c f es fid).mp
    (((acceptWriteHc_iff true w c f es fid).mp h).1 lf hlf)).2.2.1
  exact (checkChannelCounts_iff true w lf c f es).mp hc rfl i hi ((inLf_iff w lf i).mpr ⟨hi, hin⟩)
    ((kindAt_iff w i c).mpr ⟨hi, hk⟩)

/-- outside the mode the count of frames per channel refuses nothing: the checks are those of C07 / C12 -/
theorem channel_counts_only_in_mode (w : World) (c f : Nat) (es : List Edge) (fid : Nat → Bool) :
    acceptWriteHc false w c f es fid = acceptWrite w c f es fid := acceptWriteHc_false w c f es fid

/-- non-vacuity: a channel listed by two frames / by none is refused in the mode and accepted outside it -/
example :
    let w := run (World.init 1) [.origin 0 none [79] none .ok, .item 0 11 none [67] none .ok, .item 0 11 none [68] none .ok,
      .item 0 12 none [70] none .ok, .item 0 12 none [71] none .ok]
    acceptWriteHc true w 11 12 [⟨3, 1, true⟩, ⟨4, 2, true⟩] (fun _ => true) = .ok () ∧
    acceptWriteHc true w 11 12 [⟨3, 1, true⟩, ⟨4, 1, true⟩, ⟨4, 2, true⟩] (fun _ => true) = .error .channelFrameCount ∧
    acceptWriteHc true w 11 12 [⟨3, 1, true⟩, ⟨4, 1, true⟩] (fun _ => true) = .error .channelFrameCount ∧
    acceptWriteHc false w 11 12 [⟨3, 1, true⟩, ⟨4, 1, true⟩] (fun _ => true) = .ok () := by decide +kernel

end Dlis.C17
