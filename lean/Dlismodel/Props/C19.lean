/-
  C19 — Writing never alters the caller's data.

  PARTIAL by nature: whether numpy's slicing, `np.zeros`, field assignment, `np.asarray(..., dtype)`, `tobytes`
  and h5py reads really have the effects listed in `pipeline` is runtime behaviour.  What is proved: (1) executing
  any effect list that contains no write to a caller buffer leaves every caller buffer as it was — whatever is
  read, allocated or written elsewhere, for successful and failed (truncated) executions alike; (2) the effect
  list of the data path contains no such write, for every source kind, with and without the no-copy path, with
  and without casts, for every number of channels and rows.  The tie is the C19 correspondence: bit-exact
  checksums of every caller-owned buffer (including the surroundings of views, read-only arrays, the dict's keys
  and values, the HDF5 file's bytes) before and after real writes, successful and failed.
-/
import Dlismodel.Model.Alias
namespace Dlis.C19
open Dlis

theorem exec_preserves_caller (h : Heap) (e : Effect) (i : Nat) (hw : writesCaller e = false) :
    exec h e (.caller i) = h (.caller i) := by
  cases e with
  | read b => rfl
  | alloc j => simp [exec]
  | write b v =>
    cases b with
    | caller k => cases hw
    | fresh k => simp [exec]

/-- (1) no write effect on a caller buffer ⇒ caller buffers unchanged, also after any prefix (a write that
fails midway) -/
theorem no_caller_write_preserves (es : List Effect) (h : Heap) (i : Nat)
    (hw : ∀ e ∈ es, writesCaller e = false) : ∀ k, execAll h (es.take k) (.caller i) = h (.caller i) := by
  intro k
  exact List.foldlRecOn (es.take k) exec (motive := fun h' => h' (.caller i) = h (.caller i)) rfl
    fun h' ih e he => (exec_preserves_caller h' e i (hw e (List.mem_of_mem_take he))).trans ih

/-- (2) the data path never writes to a caller buffer -/
theorem pipeline_never_writes_caller (kind : SrcKind) (fast cast : Bool) (n rows : Nat) :
    ∀ e ∈ pipeline kind fast cast n rows, writesCaller e = false := by
  -- segment by segment: every effect written out in `pipeline` is a read, an allocation or a write to a fresh buffer
  have h : (pipeline kind fast cast n rows).all (fun e => !writesCaller e) = true := by
    unfold pipeline
    simp only [List.all_append, List.all_flatMap, Bool.and_eq_true]
    refine ⟨⟨⟨by cases kind <;> rfl, List.all_eq_true.mpr fun _ _ => rfl⟩, rfl⟩, ?_⟩
    split <;> simp only [List.all_append, List.all_flatMap, Bool.and_eq_true]
    · exact List.all_eq_true.mpr fun _ _ => List.all_eq_true.mpr fun _ _ => rfl
    · exact ⟨⟨rfl, List.all_eq_true.mpr fun _ _ => rfl⟩, List.all_eq_true.mpr fun _ _ => List.all_eq_true.mpr fun _ _ => rfl⟩
  intro e he
  simpa using List.all_eq_true.mp h e he

/-- hence: after a write — complete or aborted at any point — every caller buffer holds what it held before -/
theorem caller_data_unaltered (kind : SrcKind) (fast cast : Bool) (n rows : Nat) (h : Heap) (i k : Nat) :
    execAll h ((pipeline kind fast cast n rows).take k) (.caller i) = h (.caller i) :=
  no_caller_write_preserves _ h i (pipeline_never_writes_caller kind fast cast n rows) k

/-- the statement is not vacuous: a single write to a caller buffer is observed -/
example : execAll (fun _ => 7) [.write (.caller 1) 9] (.caller 1) = 9 := by decide

end Dlis.C19
