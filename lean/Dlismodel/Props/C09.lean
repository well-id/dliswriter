/-
  C09 — Each logical file has the mandated order: header, origin, sets, then data.
  `DLISFile.generator` is modelled by `fileRecords`: per logical file the FILE-HEADER record, the ORIGIN sets,
  every other registered set, the no-format records, the frame-data records; empty sets give no record (C04
  `empty_set_no_record` / C02: an empty body yields no segment).
-/
import Dlismodel.Proofs.Api
import Dlismodel.Model.Eflr
import Dlismodel.Proofs.Seg
namespace Dlis.C09
open Dlis

/-- the kinds of records of one logical file, in the order the generator yields them -/
inductive RecKind
  | header | set (k : Key) (objs : List Item) | noformat | fdata
  deriving Repr, DecidableEq

def lfRecords (w : World) (lf : Nat) (nNoFormat nRows : Nat) : List RecKind :=
  RecKind.header :: ((setRecords w lf).map fun (k, its) => RecKind.set k its) ++
    List.replicate nNoFormat RecKind.noformat ++ List.replicate nRows RecKind.fdata

/-- header first; then the ORIGIN sets, then all other sets; each (type, name) at most once; never an empty set;
all explicitly formatted records precede the indirectly formatted ones -/
theorem generator_shape (w : World) (hr : RegInv w) (lf nn nr : Nat) :
    ∃ (o r : List (Key × List Item)), lfRecords w lf nn nr =
        RecKind.header :: (o.map fun (k, its) => RecKind.set k its) ++ (r.map fun (k, its) => RecKind.set k its) ++
          List.replicate nn RecKind.noformat ++ List.replicate nr RecKind.fdata ∧
      (∀ p ∈ o, p.1.1 = 0) ∧ (∀ p ∈ r, p.1.1 ≠ 0) ∧ ((o ++ r).map (·.1)).Nodup ∧
      ∀ p ∈ o ++ r, p.2 ≠ [] ∧ ∀ it ∈ p.2, it.key = p.1 := by
  obtain ⟨o, r, h1, h2, h3, h4, h5⟩ := setRecords_shape w hr lf
  exact ⟨o, r, by simp [lfRecords, h1], h2, h3, h1 ▸ h4, h1 ▸ h5⟩

/-- the FILE-HEADER object: sequence number right-justified in 10, identifier left-justified in 65 characters -/
theorem header_fields (name : ObName) (seqNo : Int) (hid : PStr) (b : Bytes)
    (h : fileHeaderBody name seqNo hid = .ok b) :
    ∃ s i, justify (intStr seqNo) 10 false = .ok s ∧ justify hid 65 true = .ok i ∧ s.length = 10 ∧ i.length = 65 := by
  simp only [fileHeaderBody, bind_ok, pure_ok] at h
  obtain ⟨t, _, l1, _, l2, _, n, _, s, hs, i, hi, _⟩ := h
  exact ⟨s, i, hs, hi, justify_length hs, justify_length hi⟩

/-- the defining origin is the first object of the first ORIGIN set of the logical file -/
theorem defining_origin_first (w : World) (lf : Nat) (o : Item) (rest : List Item)
    (h : originsOfLf w lf = o :: rest) : defaultOrigin w lf = o.origin := by
  simp [defaultOrigin, h]

example : lfRecords (run (World.init 1) [.item 0 3 none [67] none .ok, .origin 0 none [79] none .ok,
    .item 0 5 none [90] none .rejectLate]) 0 1 2 =
    [.header, .set (0, none) [⟨0, 0, none, [79], some 0, 0⟩], .set (3, none) [⟨0, 3, none, [67], some 0, 0⟩],
     .noformat, .fdata, .fdata] := by decide +kernel

end Dlis.C09
