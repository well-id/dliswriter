/-
  C05 — Metadata fidelity: what the user sets is what a reader gets.

  Two links.  (1) *State → file* (proved here): for every set the model writes, the strict reader finds under the
  set's type, each object's name and each template label exactly the attribute's count, units and representation
  code, and every value reads back — with the strict C06 decoder of that code — as the value held by the
  attribute (`canon`): numbers exactly (integers as integers, floats as their bit pattern), text exactly,
  date-times as the UTC fields with zone code 2 and the rounded millisecond, references as the identity
  (set type,) origin, copy number, name of the referenced object; unset attributes read back absent.
  (2) *User input → state* (converters of `Attribute.convert_value` and subclasses, write-time defaults): this is
  Python dynamic-typing logic on arbitrary objects; it is tied by the C05 whole-file oracle, which compares the
  reader's dump of the real file with an expectation computed from what was passed to the public API and the
  pinned schema (Obligations.attrs_eq), for all four assignment routes.  PARTIAL in that respect.
-/
import Dlismodel.Proofs.Eflr
import Dlismodel.Proofs.Convert
import Dlismodel.Proofs.Defaults
import Dlismodel.Proofs.Float
namespace Dlis.C05
open Dlis

/-- canonical reading of a value -/
inductive CVal
  | int (i : Int) | bits (n : Nat) | text (b : Bytes) | dtime (v : DTimeVal) | obname (o : ObNameVal)
  | objref (t : Bytes) (o : ObNameVal)
  deriving Repr, DecidableEq

/-- strict decoding of one value of code `rc` that must consume all bytes -/
def decodeVal (rc : Nat) (b : Bytes) : Option CVal :=
  let whole {α : Type} (r : Option (α × Bytes)) (f : α → CVal) : Option CVal :=
    match r with | some (v, []) => some (f v) | _ => none
  match rc with
  | 12 => whole (decS 1 b) .int | 13 => whole (decS 2 b) .int | 14 => whole (decS 4 b) .int
  | 15 => whole (decU 1 b) .int | 16 => whole (decU 2 b) .int | 17 => whole (decU 4 b) .int
  | 18 => whole (decUvari b) (fun n => .int n)
  | 26 => whole (decStatus b) (fun n => .int n)
  | 2 => whole (rdN 4 b) .bits | 7 => whole (rdN 8 b) .bits
  | 19 => whole (decIdent b) .text | 20 => whole (decAscii b) .text
  | 21 => whole (decDtime b) .dtime
  | 23 => whole (decObname b) .obname
  | 24 => whole (decObjref b) (fun p => .objref p.1 p.2)
  | _ => none

def asInt : AVal → Option Int
  | .int i => some i | .bool b => some (if b then 1 else 0) | _ => none

/-- what a reader must get for attribute value `v` written with code `rc` -/
def canon (rc : Nat) (v : AVal) : Option CVal :=
  if rc = 12 ∨ rc = 13 ∨ rc = 14 ∨ rc = 15 ∨ rc = 16 ∨ rc = 17 ∨ rc = 18 ∨ rc = 26 then (asInt v).map .int
  else if rc = 7 then
    match v with
    | .f64 b => some (.bits b) | .f32 b => (f32ToF64 b).map .bits | .int i => (intToF64 i).map .bits
    | .bool b => some (.bits (if b then 0x3FF0000000000000 else 0)) | _ => none
  else if rc = 2 then
    match v with
    | .f32 b => some (.bits b) | .bool b => some (.bits (if b then 0x3F800000 else 0))
    | .f64 b => (f64ToF32 b).toOption.map .bits         -- a Python float: the nearest single (Proofs/Float.lean)
    | .int i => (intToF64 i).bind (fun d => (f64ToF32 d).toOption.map .bits)
    | _ => none
  else if rc = 19 ∨ rc = 20 then
    match v with
    | .str s => some (.text (s.map b8)) | .int i => some (.text ((intStr i).map b8))
    | .bool b => some (.text ((boolStr b).map b8)) | _ => none
  else if rc = 21 then
    match v with
    | .dtime t => some (.dtime { y := (t.year - 1900).toNat, tz := 2, month := t.month, day := t.day, hour := t.hour,
                                  minute := t.minute, second := t.second, ms := msOfMicro t.micro })
    | _ => none
  else if rc = 23 then match v with | .obj _ o => some (.obname (obnameVal o)) | _ => none
  else if rc = 24 then match v with | .obj t o => some (.objref (t.map b8) (obnameVal o)) | _ => none
  else none

/-- calendar validity of date-time values (always true of a Python `datetime`) -/
def AValOk : AVal → Prop
  | .dtime t => 1 ≤ t.month ∧ t.month ≤ 12 ∧ 1 ≤ t.day ∧ t.day ≤ 31 ∧ t.hour ≤ 23 ∧ t.minute ≤ 59 ∧ t.second ≤ 59
  | _ => True

/-! `decodeVal rc` runs the strict decoder `dec` of the code — which one is read off the definition by `rfl` — and
wants all bytes consumed, so it follows the decoder's round trip `dec (b ++ rest) = some (x, rest)` with nothing
behind the value; `canon` is what that decoder returns on what `encVal` handed to the encoder (`Wrote`). -/

/-- `decodeVal`'s local `whole` -/
def whole {α : Type} (r : Option (α × Bytes)) (f : α → CVal) : Option CVal :=
  match r with | some (v, []) => some (f v) | _ => none

theorem decodeVal_of_dec {α : Type} {rc : Nat} {dec : Bytes → Option (α × Bytes)} {b : Bytes} {x : α} {v : AVal}
    (hd : dec (b ++ []) = some (x, [])) (f : α → CVal) (hs : ∀ bs, decodeVal rc bs = whole (dec bs) f)
    (hc : canon rc v = some (f x)) : decodeVal rc b = canon rc v ∧ (canon rc v).isSome := by
  rw [List.append_nil] at hd
  rw [hs, hd, hc]; exact ⟨rfl, rfl⟩

theorem canon_int {rc : Nat} {v : AVal} {i : Int} (hrc : canon rc v = (asInt v).map .int) (hi : AVal.toInt v = some i) :
    canon rc v = some (.int i) := by
  have : asInt v = AVal.toInt v := by cases v <;> rfl
  rw [hrc, this, hi]; rfl

theorem canon_double {v : AVal} {d : Nat} (h : AVal.toDouble v = some d) : canon 7 v = some (.bits d) := by
  have : canon 7 v = (AVal.toDouble v).map .bits := by cases v <;> rfl
  rw [this, h]; rfl

/-- what is packed as a single is the `canon`ical single, and fits its four bytes -/
theorem canon_single {v : AVal} {r : Nat} (h : AVal.toSingle v = some r) : canon 2 v = some (.bits r) ∧ r < 256 ^ 4 := by
  have ok : ∀ {d : Nat}, (f64ToF32 d).toOption = some r → f64ToF32 d = .ok r := by
    intro d h; cases hx : f64ToF32 d <;> rw [hx] at h <;> cases h; rfl
  cases v with
  | f32 n =>
    dsimp only [AVal.toSingle] at h; split at h
    · cases h; exact ⟨rfl, ‹_›⟩
    · cases h
  | f64 n =>
    dsimp only [AVal.toSingle] at h; split at h
    · exact ⟨by show (f64ToF32 n).toOption.map _ = _; rw [h]; rfl, f64ToF32_lt n r ‹_› (ok h)⟩
    · cases h
  | int i =>
    obtain ⟨d, hw, hr⟩ := Option.bind_eq_some_iff.mp h
    exact ⟨by show (intToF64 i).bind _ = _; rw [hw]; show (f64ToF32 d).toOption.map _ = _; rw [hr]; rfl,
      f64ToF32_lt d r (intToF64_lt i d hw) (ok hr)⟩
  | bool x => cases h; exact ⟨rfl, by cases x <;> decide⟩
  | _ => cases h

theorem canon_text {rc : Nat} {v : AVal} {s : PStr} (hrc : rc = 19 ∨ rc = 20) (h : AVal.toText v = some s) :
    canon rc v = some (.text (s.map b8)) := by
  rcases hrc with rfl | rfl <;> cases v <;> cases h <;> rfl

/-- every value the writer encodes reads back as `canon` -/
theorem decodeVal_encVal (rc : Nat) (v : AVal) (b : Bytes) (hv : AValOk v) (h : encVal rc v = .ok b) :
    decodeVal rc b = canon rc v ∧ (canon rc v).isSome := by
  cases encVal_wrote h with
  | signed hk hi h =>
    rcases hk with ⟨rfl, rfl⟩ | ⟨rfl, rfl⟩ | ⟨rfl, rfl⟩ <;>
      exact decodeVal_of_dec (decS_encS (by decide) h []) .int (fun _ => rfl) (canon_int rfl hi)
  | unsigned hk hi h =>
    rcases hk with ⟨rfl, rfl⟩ | ⟨rfl, rfl⟩ | ⟨rfl, rfl⟩ <;>
      exact decodeVal_of_dec (decU_encU h []) .int (fun _ => rfl) (canon_int rfl hi)
  -- UVARI, STATUS: the decoder returns a natural number, which is the integer written as that is not negative
  | uvari hi h =>
    have h0 := ((encUvari_ok_iff _).mp ⟨b, h⟩).1
    exact decodeVal_of_dec (decUvari_encUvari h []) (fun n => .int n) (fun _ => rfl)
      (by rw [Int.toNat_of_nonneg h0]; exact canon_int rfl hi)
  | status hi h =>
    have h0 := (encStatus_ok_iff _).mp ⟨b, h⟩
    exact decodeVal_of_dec (decStatus_encStatus h []) (fun n => .int n) (fun _ => rfl)
      (by rw [Int.toNat_of_nonneg (by omega)]; exact canon_int rfl hi)
  | double hd hlt => exact decodeVal_of_dec (rdN_beN 8 _ [] hlt) .bits (fun _ => rfl) (canon_double hd)
  | single hr => exact decodeVal_of_dec (rdN_beN 4 _ [] (canon_single hr).2) .bits (fun _ => rfl) (canon_single hr).1
  | ident hs h => exact decodeVal_of_dec (decIdent_encIdent h []) .text (fun _ => rfl) (canon_text (.inl rfl) hs)
  | ascii hs h => exact decodeVal_of_dec (decAscii_encAscii h []) .text (fun _ => rfl) (canon_text (.inr rfl) hs)
  | dtime h =>
    exact decodeVal_of_dec (decDtime_encDtime h [] ⟨hv.1, hv.2.1⟩ ⟨hv.2.2.1, hv.2.2.2.1⟩ hv.2.2.2.2.1 hv.2.2.2.2.2.1
      hv.2.2.2.2.2.2) .dtime (fun _ => rfl) rfl
  | obname h => exact decodeVal_of_dec (decObname_encObname h []) .obname (fun _ => rfl) rfl
  | objref h => exact decodeVal_of_dec (decObjref_encObjref h []) (fun p => .objref p.1 p.2) (fun _ => rfl) rfl

/-- all values of an attribute read back as `canon`, in order -/
theorem values_fidelity (r : Nat) (vs : List AVal) (bl : List Bytes) (hv : ∀ v ∈ vs, AValOk v)
    (h : encValsL r vs = .ok bl) : bl.map (decodeVal r) = vs.map (canon r) ∧ ∀ v ∈ vs, (canon r v).isSome := by
  replace h := encValsL_all2 h
  induction h with
  | nil => exact ⟨rfl, nofun⟩
  | cons hb _ ih =>
    obtain ⟨d1, d2⟩ := decodeVal_encVal r _ _ (hv _ (.head _)) hb
    obtain ⟨h1, h2⟩ := ih fun v' hv' => hv v' (.tail _ hv')
    refine ⟨by rw [List.map_cons, List.map_cons, d1, h1], fun v' hv' => ?_⟩
    cases hv' with
    | head => exact d2
    | tail _ h' => exact h2 v' h'

/-- C05, state → file: in every set body the model writes, the reader finds each object under the set's type
and the object's identity, unset attributes absent, and for each assigned attribute its count, representation
code, units and values (read with the strict decoders) -/
theorem decode_attr_fidelity (s : SetDesc) (b : Bytes) (hs : SetOk s) (hne : s.objects ≠ [])
    (hvals : ∀ o ∈ s.objects, ∀ a, some a ∈ o.attrs → ∀ v ∈ a.vals, AValOk v)
    (h : setBody s = .ok b) :
    ∃ d, parseEflr b = some d ∧ d.type = s.type.map b8 ∧ d.template.map (·.label) = s.labels.map (fun l => l.map b8) ∧
      All2 (fun (o : ObjDesc) (dobj : DObj) =>
        dobj.name = obnameVal o.name ∧ dobj.attrs.length = o.attrs.length ∧
        ∀ i (hi : i < o.attrs.length) (hi' : i < dobj.attrs.length),
          match o.attrs[i], dobj.attrs[i] with
          | none, none => True
          | some a, some c =>
            c.count = a.count ∧ c.rc = a.rc.getD 19 ∧
            c.units = (if hasUnits a then (a.units.getD []).map b8 else []) ∧
            (a.vals ≠ [] → c.vals.map (decodeVal c.rc) = a.vals.map (canon c.rc))
          | _, _ => False) s.objects d.objects := by
  obtain ⟨d, hd, hty, _, htm, hobjs⟩ := parseEflr_setBody s b hs hne h
  refine ⟨d, hd, hty, by rw [htm, List.map_map]; rfl, All2_imp ?_ hobjs⟩
  intro o dobj ho ⟨hn, hl, hat⟩
  refine ⟨hn, hl, fun i hi hi' => ?_⟩
  have hm := hat i hi hi'
  have hmem : ∀ a, o.attrs[i] = some a → some a ∈ o.attrs := fun a e => e ▸ List.getElem_mem hi
  generalize o.attrs[i] = oa at hm hmem ⊢
  generalize dobj.attrs[i] = da at hm ⊢
  cases oa <;> cases da
  · trivial
  · exact hm
  · exact hm
  · rename_i a c
    obtain ⟨bl, hbl, rfl⟩ := hm
    refine ⟨rfl, rfl, rfl, fun hne' => ?_⟩
    -- with values there is a representation code, and `attrValsL` is `encValsL` under it
    unfold attrValsL at hbl
    rw [if_neg (by rwa [List.isEmpty_iff])] at hbl
    cases hrc : a.rc with
    | none => rw [hrc] at hbl; cases hbl
    | some r =>
      rw [hrc] at hbl
      simp only [attrContent, hrc, Option.getD_some]
      exact (values_fidelity r a.vals bl (hvals o ho a (hmem a rfl)) hbl).1

/-! non-vacuity -/
example : decodeVal 7 (beN 8 0x8000000000000000) = canon 7 (.f64 0x8000000000000000) := by decide +kernel
example : (encVal 21 (.dtime { year := 2020, month := 5, day := 17, hour := 12, minute := 30, second := 45, micro := 250500 })).toOption.bind
    (decodeVal 21) = some (.dtime { y := 120, tz := 2, month := 5, day := 17, hour := 12, minute := 30, second := 45, ms := 250 }) := by
  decide +kernel

end Dlis.C05

/-
  C05, link 2 — from what the user assigns to what the attribute holds and hands to the writer
  (`Model/Convert.lean`: the `value`/`units` setters, `convert_value`, the converters of every attribute kind,
  the inferred representation code, `count`).  Together with `decode_attr_fidelity` (held state -> file ->
  decoded value) these give the property end to end inside the model; the converter model is instantiated from
  the pinned table `Standard.convs`, which `Obligations.convs_eq` ties to the live package, and the `convert`
  correspondence stream compares it with the real setters on every attribute of every object type.
-/
namespace Dlis.C05
open Dlis

/-- text, names, references and plain attributes: the attribute holds exactly the values assigned, in order
(as a list when the attribute is multivalued) — nothing is converted, dropped or added -/
theorem assigned_held_exactly {a : AttrSpec} {hc : Bool} {mem : List PStr} {st st' : AttrState} {v : PyVal}
    (hi : a.conv.idLike = true) (h : setValue a hc mem st v = .ok st') :
    st'.value = (if a.multivalued then .list (itemsOf v) else v) ∧ st'.units = st.units := by
  simp only [setValue, bind_ok, pure_ok] at h
  obtain ⟨nv, hnv, rfl⟩ := h
  exact ⟨convertValue_induct (P := fun x y => y = x) (fun _ _ => applyConv_idLike hi)
    (fun _ _ h => by rw [All2_eq h]) hnv, rfl⟩

/-- every converting attribute kind: as many values are held as were assigned, in the same order, each the
converter's image of the one assigned -/
theorem assigned_held_leafwise {a : AttrSpec} {hc : Bool} {mem : List PStr} {st st' : AttrState} {v : PyVal}
    (hl : a.conv.leafOnly = true) (h : setValue a hc mem st v = .ok st') :
    All2 (fun x y => applyConv a.conv hc (curRcFor a st.value) mem x = .ok y) (flattenV v) (flattenV st'.value) := by
  simp only [setValue, bind_ok, pure_ok] at h
  obtain ⟨nv, hnv, rfl⟩ := h
  have := convertValue_induct (P := fun v r => All2 (fun x y => applyConv a.conv hc (curRcFor a st.value) mem x = .ok y)
      (flattenV v) (flattenV r)) ?_ (fun _ _ => All2_flattenL) hnv
  · split at this
    · rwa [← flattenV_items]
    · exact this
  · -- where the converter is applied, neither the value given nor the value made is a sequence
    intro x y hxy
    have hx : ∀ l, x ≠ .list l := fun l hl' => applyConv_list hl (hl' ▸ hxy)
    rw [flattenV_scalar hx, flattenV_scalar ((applyConv_fresh hxy).elim (fun e => e ▸ hx) id)]
    exact .cons hxy .nil

/-- numbers: an accepted value is held as the integer it stands for, or as the double with the same bits
(a double) / the nearest double (an integer) -/
theorem numeric_value_kept {intOnly hc : Bool} {rc : Except Err (Option Nat)} {mem : List PStr} {v r : PyVal}
    (h : applyConv (.numeric intOnly) hc rc mem v = .ok r) :
    (∃ i, r = .int i ∧ intOf v = some i) ∨
    (∃ f, r = .float f ∧ (v = .float f ∨ (∃ i, v = .int i ∧ intToF64R i = some f) ∨
      (∃ b, v = .bool b ∧ f = if b then 0x3FF0000000000000 else 0))) := numeric_spec h

/-- … and the nearest double of an integer of magnitude ≤ 2^53 is that integer exactly -/
theorem int_as_double_exact (i : Int) (h : i.natAbs ≤ 2 ^ 53) : ∃ f, intToF64R i = some f ∧ f64ToInt f = some i :=
  intToF64R_exact i h

theorem status_value_kept {hc : Bool} {rc : Except Err (Option Nat)} {mem : List PStr} {v r : PyVal}
    (h : applyConv .status hc rc mem v = .ok r) :
    ∃ i, r = .int i ∧ (i = 0 ∨ i = 1) ∧ (intOf v = some i ∨ ∃ s ec p, v = .str s ec p ∧ p.asInt = some i) :=
  status_spec h

theorem dtime_value_kept {af hc : Bool} {rc : Except Err (Option Nat)} {mem : List PStr} {v r : PyVal}
    (h : applyConv (.dtime af) hc rc mem v = .ok r) :
    (∃ t, r = .dtime t ∧ (v = .dtime t ∨ ∃ s ec p, v = .str s ec p ∧ p.asDtime = some t)) ∨
    (af = true ∧ ∃ f, r = .float f) := dtime_spec h

theorem mapM_length {α β : Type} {f : α → Option β} {l : List α} {r : List β} (h : l.mapM f = some r) :
    r.length = l.length := by
  induction l generalizing r with
  | nil => simp at h; subst h; rfl
  | cons x xs ih =>
    simp only [List.mapM_cons, obind_some] at h
    obtain ⟨y, _, ys, hys, h⟩ := h
    simp at h; subst h
    simp [ih hys]

/-- what the writer is handed are the held values, flattened in order, under the code `representation_code`
reports, with the units held; and the count written is their number -/
theorem writer_gets_held_values {a : AttrSpec} {st : AttrState} {s : AttrSt} (h : toAttrSt a st = .ok (some s)) :
    (flattenV st.value).mapM leafAVal = some s.vals ∧ reprCode a st.value = .ok s.rc ∧ s.units = st.units ∧
      pyCount a st.value = some s.count := by
  unfold toAttrSt at h
  split at h
  · cases h
  · simp only [bind_ok] at h
    obtain ⟨rc, hrc, h⟩ := h
    split at h
    · cases h
    · rename_i hne _ vals hv
      cases h
      refine ⟨hv, hrc, rfl, ?_⟩
      have hlen := mapM_length hv
      cases hval : st.value with
      | list l => rw [hval] at hlen; simp only [pyCount, AttrSt.count, ↓reduceIte, hlen, flattenV]
      | none => exact absurd hval hne
      | _ => rfl

/-- an attribute never assigned (value `None`) is written as the absent-attribute component -/
theorem unassigned_is_absent (a : AttrSpec) (u : Option PStr) :
    toAttrSt a (AttrState.mk PyVal.none u) = .ok none := rfl

/-- non-vacuity: a multidimensional numeric attribute given a nested list of an int, a float and a bool -/
example : (setValue (AttrSpec.mk (.numeric false) none true true true numericCodes) false []
      (AttrState.mk PyVal.none none)
      (.list [.int 3, .list [.float 0x4004000000000000, .bool true]])).toOption.map (·.value) =
    some (.list [.float 0x4008000000000000, .list [.float 0x4004000000000000, .float 0x3FF0000000000000]]) := by
  rfl

end Dlis.C05

/-
  C05, write-time defaults (`Model/Defaults.lean`): "the only additions are the documented write-time defaults" —
  a default or a derived value fills an attribute only where the user assigned nothing, and what is derived is
  consistent with the values.
-/
namespace Dlis.C05
open Dlis

/-- a DIMENSION the user assigned to a parameter / computation / calibration measurement is never replaced -/
theorem assigned_dimension_kept {d : List Nat} {v : PyVal} {r : Option (List Nat)}
    (h : checkOrSetDim (some d) v = .ok r) : r = some d := (checkOrSetDim_some h).1

/-- a derived DIMENSION is the per-value shape of the values (or [1] for scalar values) -/
theorem derived_dimension_is_shape {dim r : Option (List Nat)} {v : PyVal} (hv : v ≠ .none)
    (h : checkOrSetDim dim v = .ok r) : ∃ sh, shapeV v = some sh ∧ r = some (dimOfShape sh) := by
  rcases checkOrSetDim_ok h with ⟨hv', _⟩ | ⟨sh, h1, h2, _⟩
  · exact absurd hv' hv
  · exact ⟨sh, h1, h2⟩

theorem parameter_dimension_kept {single : Bool} {values : PyVal} {zc : Option Nat} {d : List Nat}
    {axes : Option (List (Option Nat))} {r : Option (List Nat)} (hd : d ≠ [])
    (h : paramDefaults single values zc (some d) axes = .ok r) : r = some d :=
  let _ := hd
  paramDefaults_keeps h

/-- a channel set up from its data: DIMENSION is the per-row shape; an ELEMENT-LIMIT the user assigned is kept as
assigned and covers the dimension; one that was not assigned equals the dimension -/
theorem channel_from_data {dimension limit : Option (List Nat)} {dim : List Nat} {d l : Option (List Nat)}
    (h : channelFromData dimension limit dim = .ok (d, l)) :
    d = some dim ∧ (truthyDim limit = true → l = limit ∧ limitCovers (limit.getD []) dim = true) ∧
      (truthyDim limit = false → l = some dim) := by
  simp only [channelFromData, bind_ok, pure_ok, Prod.mk.injEq] at h
  obtain ⟨d, hd, l, hl, rfl, rfl⟩ := h
  constructor
  · unfold dimFromData at hd
    split at hd
    · split at hd <;> cases hd; rfl
    · cases hd; exact Decidable.of_not_not ‹_›
  · unfold limitFromData at hl
    split at hl
    · split at hl
      · obtain ⟨hc, hl⟩ := ite_error_right.1 hl
        cases hl
        exact ⟨fun _ => ⟨rfl, hc⟩, fun hf => absurd ‹truthyDim limit = true› (by simp [hf])⟩
      · cases hl; exact ⟨fun ht => absurd ht ‹_›, fun _ => rfl⟩
    · cases hl
      cases Decidable.of_not_not ‹¬limit ≠ some dim›
      exact ⟨fun _ => ⟨rfl, limitCovers_refl dim⟩, fun _ => rfl⟩

/-- the mutual default of DIMENSION and ELEMENT-LIMIT replaces neither when assigned -/
theorem channel_defaults_keep {dimension limit d l : Option (List Nat)} (h : dimAndLimit dimension limit = .ok (d, l)) :
    (truthyDim dimension = true → d = dimension) ∧ (truthyDim limit = true → l = limit) := by
  unfold dimAndLimit at h
  cases hd : truthyDim dimension <;> cases hl : truthyDim limit <;> rw [hd, hl] at h
  · exact ⟨nofun, nofun⟩
  · cases h; exact ⟨nofun, fun _ => rfl⟩
  · cases h; exact ⟨fun _ => rfl, nofun⟩
  · -- both assigned: they are compared, and kept or refused
    simp only [Bool.not_true, Bool.false_and, Bool.false_eq_true, ↓reduceIte] at h
    split at h
    · split at h
      · obtain ⟨_, h⟩ := ite_error_right.1 h; cases h; exact ⟨fun _ => rfl, fun _ => rfl⟩
      · cases h
    · cases h; exact ⟨fun _ => rfl, fun _ => rfl⟩

/-- the field name is WILDCAT exactly when none was assigned -/
theorem field_name_default (a : Option PStr) : originFieldName a = a.getD [87, 73, 76, 68, 67, 65, 84] := by
  cases a <;> rfl

example : channelFromData none (some [10]) [5] = .ok (some [5], some [10]) := by decide
example : paramDefaults true (.list [.list [.int 1, .int 2], .list [.int 3, .int 4]]) (some 2) none none = .ok (some [2]) := by rfl

end Dlis.C05
