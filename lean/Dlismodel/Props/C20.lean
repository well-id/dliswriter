/-
  C20 — A rejected call leaves no trace in later files.

  Proved, for the state machine of `LogicalFile.add_*` (Model/Api.lean): a rejected add_* call (before or after the
  object registered itself with its set) is the identity on the whole state — objects, origin references, copy
  numbers, header origins, the set registries of every logical file — so the state after ANY history is the state
  after the history without its rejected calls (`history_without_rejected_calls`), and with it everything a write
  derives from the state: writability and the set records of every logical file, in their order.
  (Until the repair recorded in KNOWN_FINDINGS.json — the set is registered with the logical file only once the
  object exists — two provisos were needed here, and their necessity was proved by two witnesses; those theorems are
  gone with the defect, and the harness histories that exhibited it now pass.)
  PARTIAL: the second half of the property (a write that raises leaves the specification able to produce the fresh
  file) is about values derived at write time and is checked by the streams `failed-write` / `refused-then-corrected`.
-/
import Dlismodel.Proofs.FrameIdx
import Dlismodel.Proofs.Api
import Dlismodel.Model.Dataset
import Dlismodel.Proofs.Defaults
namespace Dlis.C20
open Dlis

/-- one step: nothing changes -/
theorem rejected_call_is_identity (w : World) (op : Op) (h : op.rejected = true) : step w op = w :=
  rejected_is_identity w op h

theorem rejected_leaves_objects (w : World) (op : Op) (h : op.rejected = true) :
    (step w op).items = w.items ∧ (step w op).headerOrigin = w.headerOrigin := by
  rw [rejected_is_identity w op h]
  exact ⟨rfl, rfl⟩

theorem later_copy_numbers_unaffected (w : World) (op : Op) (h : op.rejected = true) (lf kind : Nat) (sn : Option PStr)
    (n : PStr) : copyNumber (step w op) lf kind sn n = copyNumber w lf kind sn n := by
  rw [rejected_is_identity w op h]

/-- all steps: any number of rejected calls, anywhere in the history, before or after the objects they could have
disturbed, through any logical file and naming any set: the state is that of the history without them -/
theorem history_without_rejected_calls (w : World) (ops : List Op) :
    run w ops = run w (ops.filter fun o => !o.rejected) := by
  induction ops generalizing w with
  | nil => rfl
  | cons op ops ih =>
    by_cases h : op.rejected = true
    · rw [List.filter_cons_of_neg (by simp [h])]
      exact (congrArg (run · ops) (rejected_is_identity w op h)).trans (ih w)
    · rw [List.filter_cons_of_pos (by simpa using h)]
      exact ih (step w op)

/-- … hence so is everything a write takes from the state -/
theorem later_files_unaffected (n : Nat) (ops : List Op) :
    writable (run (World.init n) ops) = writable (run (World.init n) (ops.filter fun o => !o.rejected)) ∧
    ∀ lf, setRecords (run (World.init n) ops) lf = setRecords (run (World.init n) (ops.filter fun o => !o.rejected)) lf := by
  rw [← history_without_rejected_calls]
  exact ⟨rfl, fun _ => rfl⟩

/-- the histories that used to show a trace (a rejected add_origin naming a new set; a rejected call naming a set
another logical file has objects in) are non-trivial instances -/
example :
    let ops : List Op := [.origin 0 (some [88]) [82] none .rejectLate, .origin 0 none [79] none .ok,
      .origin 0 (some [88]) [80] (some 7) .ok, .item 0 3 none [65] none .ok]
    (run (World.init 1) ops).items = (run (World.init 1) (ops.filter fun o => !o.rejected)).items ∧
      (run (World.init 1) ops).items.length = 3 := by
  decide +kernel

example :
    let ops : List Op := [.origin 0 none [79] none .ok, .origin 1 (some [84]) [80] none .ok,
      .item 0 3 none [65] none .ok, .item 1 3 none [66] none .rejectLate]
    writable (run (World.init 2) ops) = true := by
  decide +kernel

/-- second half, for the values derived at write time that the model covers (`DimState`): a check that is refused —
also half-way, after an earlier attribute of a calibration measurement has fixed a dimension — leaves what the user
assigned, and the next check is the one a fresh specification gets -/
theorem refused_check_leaves_assignment (c : DimCheck) (s : DimState) (c' : DimCheck) :
    (c.run s).1.forget = s.forget ∧ c'.run (c.run s).1 = c'.run (DimState.assigned s.forget) :=
  ⟨DimCheck.run_user c s, by rw [DimCheck.run_fresh, DimCheck.run_user]⟩

/-- the refusal that used to leave a dimension behind: two attributes of a calibration measurement that disagree in
shape; corrected, the item is accepted -/
example :
    let a2 : PyVal := .list [.list [.int 1, .int 2], .list [.int 3, .int 4]]
    let a3 : PyVal := .list [.list [.int 1, .int 2, .int 3], .list [.int 4, .int 5, .int 6]]
    let r1 := calMeasCheckSt [a2, a3] none (DimState.assigned none)
    r1.2 = .error .runtime ∧ r1.1.held = some [2] ∧ r1.1.derived = true ∧
      (calMeasCheckSt [a3, a3] none r1.1).2 = .ok () ∧ (calMeasCheckSt [a3, a3] none r1.1).1.held = some [3] := by
  decide +kernel

/-- "dataset names … of objects added later are as if the call had never been made": the data set names given to
the accepted `add_channel` calls of any history are those the history gives without its rejected calls -/
theorem dataset_names_unaffected (taken : List PStr) (calls : List (PStr × Option PStr × Bool)) :
    ((datasetNames taken calls).zip calls).filterMap (fun p => if p.2.2.2 then some p.1 else none) =
      datasetNames taken (calls.filter fun c => c.2.2) := by
  induction calls generalizing taken with
  | nil => rfl
  | cons c cs ih =>
    obtain ⟨n, e, ok⟩ := c
    cases hd : datasetName taken n e <;> cases ok <;> simp [datasetNames, hd, ih]

theorem firstFree_fresh {taken : List PStr} {name : PStr} {fuel i : Nat} {d : PStr}
    (h : firstFree taken name fuel i = some d) : d ∉ taken := by
  induction fuel generalizing i with
  | zero => cases h
  | succ f ih =>
    rw [firstFree] at h
    split at h
    · exact ih h
    next hc => cases h; simpa using hc

/-- and a name handed out is never one in use -/
theorem dataset_name_fresh {taken : List PStr} {name : PStr} {e : Option PStr} {d : PStr}
    (h : datasetName taken name e = .ok d) : d ∉ taken := by
  unfold datasetName at h
  split at h
  · obtain ⟨hc, h⟩ := ite_error_left.1 h; cases h; simpa using hc
  · split at h
    next hc => cases h; simpa using hc
    · split at h <;> cases h
      exact firstFree_fresh ‹_›

example : datasetNames [] [([65], none, true), ([65], none, false), ([65], none, true), ([66], some [65], true)] =
    [.ok [65], .ok [65, 95, 95, 49], .ok [65, 95, 95, 49], .error .value] := by decide

/-- … and for the index attributes of a frame: a write refused while they are being derived (an unevenly spaced index in
high-compatibility mode, after INDEX-MIN / -MAX were assigned) leaves the user's assignments and nothing else -/
theorem refused_setup_leaves_assignment (hc indexed : Bool) (xs : List Int) (s : FrameIdx) (hc' indexed' : Bool)
    (xs' : List Int) :
    (frameSetup hc indexed xs s).1.forget = s.forget ∧
      frameSetup hc' indexed' xs' (frameSetup hc indexed xs s).1 = frameSetup hc' indexed' xs' s.forget :=
  ⟨frameSetup_user hc indexed xs s, by rw [frameSetup_fresh, frameSetup_user]⟩

example :
    let r1 := frameSetup true true [1000, 1001, 1004, 1009] (FrameIdx.user none none none none)
    r1.2 = .error .runtime ∧ r1.1.imax.held = some 1009 ∧ (frameSetup true true [4, 6, 8] r1.1).1.imax.held = some 8 := by
  decide +kernel

end Dlis.C20
