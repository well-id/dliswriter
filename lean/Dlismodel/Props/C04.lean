/-
  C04 — Every explicitly formatted record decodes under the RP66 component grammar.

  `parseEflr` (Model/ParseEflr.lean) is the strict reader: SET component with type (name optional), template of
  ATTRIB components with mandatory, pairwise distinct, non-empty labels, then OBJECT components each followed by
  at most one attribute component per template slot in template order (trailing ones may be left out), every
  attribute component either ABSATR or ATTRIB with the fields its descriptor bits announce, a defined
  representation code (1..27), and exactly `count` values of that code — a component without the value bit is
  accepted only with a count of 0 (an empty list): a value that is not there must be an absent attribute, never a
  component announcing values it does not carry; nothing may be left over.  `parseEflr_setBody`: every non-empty body produced by the model of
  `EFLRSet._make_body_bytes` is accepted and decodes to the description it was produced from.
-/
import Dlismodel.Proofs.Eflr
import Dlismodel.Proofs.FileHeader
namespace Dlis.C04
open Dlis

theorem parseEflr_setBody (s : SetDesc) (b : Bytes) (hs : SetOk s) (hne : s.objects ≠ [])
    (h : setBody s = .ok b) : ∃ d, parseEflr b = some d ∧ SetMatches s d :=
  Dlis.parseEflr_setBody s b hs hne h

/-- an empty set produces no record at all (C09: never an empty set on disk) -/
theorem empty_set_no_record (s : SetDesc) (h : s.objects = []) : setBody s = .ok [] := by
  simp [setBody, h]

/-- "a value that is not there is marked absent, never announced and then omitted": the value bit of the
descriptor is set iff at least one value follows -/
theorem attr_value_bit (a : AttrSt) : descByte a % 2 = 1 ↔ a.vals ≠ [] :=
  (descByte_bits a).2.2.2.2.2.2

/-- the number of encoded values equals the explicit or default count whenever a value is announced -/
theorem attr_count_matches (a : AttrSt) (hok : AttrOk a) (bl : List Bytes) (h : attrValsL a = .ok bl)
    (hv : a.vals ≠ []) : (attrContent a bl).vals.length = (attrContent a bl).count :=
  let _ := hv
  (attrValsL_length h).trans hok.count_eq.symm

/-- and a count of zero (an empty list) is stated explicitly and carries no value -/
theorem empty_list_encoding (a : AttrSt) (h0 : a.vals = []) (hl : a.isList = true) :
    a.count = 0 ∧ descByte a % 2 = 0 ∧ descByte a / 8 % 2 = 1 := by
  have hc : a.count = 0 := by simp [AttrSt.count, hl, h0]
  obtain ⟨_, _, _, h8, _, _, h1⟩ := descByte_bits a
  have : ¬ descByte a % 2 = 1 := fun h => h1.mp h h0
  exact ⟨hc, by omega, h8.mpr (by omega)⟩

/-! non-vacuity: a CHANNEL-like set with a named set, a unit, an empty list, a 3-valued attribute -/
example :
    let a1 : AttrSt := { rc := some 20, units := none, isList := false, vals := [AVal.str [65, 66]] }
    let a2 : AttrSt := { rc := some 18, units := some [109], isList := true, vals := [AVal.int 1, AVal.int 200, AVal.int 70000] }
    let a3 : AttrSt := { rc := some 18, units := none, isList := true, vals := [] }
    let o1 : ObjDesc := { name := { origin := 1, copy := 0, name := [88] }, attrs := [some a1, some a2, some a3] }
    let o2 : ObjDesc := { name := { origin := 1, copy := 1, name := [88] }, attrs := [none, none, none] }
    let s : SetDesc := SetDesc.mk [67, 72] (some [83]) [[76], [68], [69]] [o1, o2]
    ((setBody s).toOption.bind parseEflr).isSome = true := by decide +kernel

end Dlis.C04

namespace Dlis.C04
open Dlis
/-- FILE-HEADER (hand-written components in the code, not produced by `setBody`): *every* body the model of
`FileHeaderSet._make_body_bytes` produces — any object name, sequence number and identifier it accepts — decodes
under the same grammar, to one set FILE-HEADER with the template SEQUENCE-NUMBER, ID (both ASCII) and one object
carrying the 10- and 65-character values. -/
theorem fileHeader_parses (name : ObName) (seqNo : Int) (hid : PStr) (b : Bytes)
    (h : fileHeaderBody name seqNo hid = .ok b) :
    ∃ s i, justify (intStr seqNo) 10 false = .ok s ∧ justify hid 65 true = .ok i ∧
      parseEflr b = some
        { type := sFILEHEADER.map b8, name := none, template := fhTemplate,
          objects := [{ name := obnameVal name,
                        attrs := [some { count := 1, rc := 20, units := [], vals := [b8 10 :: s] },
                                  some { count := 1, rc := 20, units := [], vals := [b8 65 :: i] }] }] } :=
  Dlis.parseEflr_fileHeaderBody name seqNo hid b h

/-- non-vacuity: a concrete instance is accepted by `fileHeaderBody` and decodes as stated (a test of one instance) -/
theorem fileHeader_instance :
    ((fileHeaderBody { origin := 1, copy := 0, name := [48] } 7 [72, 68, 82]).toOption.bind parseEflr).map
        (fun d => (d.template.map (·.rc), d.objects.map (fun o => o.attrs.map (fun a => a.map (·.count))))) =
      some ([20, 20], [[some 1, some 1]]) := by decide +kernel
end Dlis.C04
