/-
  C14 — Output depends only on the current specification, not on process history.

  Proved here: the `write_struct` cache is transparent.  In every reachable cache state (any sequence of earlier
  encodings of any values under any codes, with arbitrary evictions) a lookup returns exactly what the uncached
  encoder returns, because keys the typed cache deems equal encode identically (`pyEq_enc`): different Python types
  never share an entry, NaN never matches, and numeric zeros — the only equal values with different encodings —
  bypass the cache.  Together with C06/C05 (bytes are a function of the attribute state) this makes the EFLR/IFLR
  bytes independent of what was encoded before.
  PARTIAL / known findings (DESIGN.md): per-object state that survives a write — values derived from data
  (C13 finding), merged `_data_dict`, sticky cast dtype — is not covered by a theorem; it is exercised by the C14
  history oracle (fresh-process comparison).
-/
import Dlismodel.Proofs.FrameIdx
import Dlismodel.Model.Cache
import Dlismodel.Proofs.Defaults
namespace Dlis.C14
open Dlis

/-- entries are what the encoder returns for their own key, and no bypassed value is stored -/
def Coherent (c : Cache) : Prop := ∀ e ∈ c, e.2 = encVal e.1.1 e.1.2 ∧ bypass e.1.2 = false

/-- keys that are equal or both zero, the first not being zero, are equal -/
theorem eq_of_eq_or_zeros {a b : Nat} {p : Prop} {z : Nat → Bool} (h : (a = b ∧ p) ∨ (z a = true ∧ z b = true))
    (ha : z a = false) : a = b := by
  rcases h with ⟨h, _⟩ | ⟨h, _⟩
  · exact h
  · rw [ha] at h; cases h

/-- keys the cache deems equal are the same value (once zeros are excluded), hence encode identically -/
theorem pyEq_eq (k v : AVal) (h : pyEq k v = true) (hk : bypass k = false) : k = v := by
  cases k <;> cases v <;> simp only [pyEq, Bool.false_eq_true, decide_eq_true_eq] at h
  · rw [h]
  · rw [h]
  · rw [eq_of_eq_or_zeros h hk]
  · rw [eq_of_eq_or_zeros h hk]
  · rw [h]
  · rw [h]
  · rw [h.1, h.2]

theorem cacheFind_coherent (c : Cache) (hc : Coherent c) (rc : Nat) (v : AVal) (b : Except Err Bytes)
    (h : cacheFind c rc v = some b) : b = encVal rc v := by
  induction c with
  | nil => simp [cacheFind] at h
  | cons e rest ih =>
    obtain ⟨⟨r, k⟩, eb⟩ := e
    simp only [cacheFind] at h
    split at h
    · rename_i hm
      simp at h; subst h
      obtain ⟨h1, h2⟩ := hc ((r, k), eb) (by simp)
      simp only at h1 h2
      rw [h1, hm.1, pyEq_eq k v hm.2 h2]
    · exact ih (fun e he => hc e (by simp [he])) h

/-- one call: the result is the uncached encoding and the cache stays coherent -/
theorem cachedWrite_transparent (c : Cache) (hc : Coherent c) (rc : Nat) (v : AVal) :
    (cachedWrite c rc v).2 = encVal rc v ∧ Coherent (cachedWrite c rc v).1 := by
  unfold cachedWrite
  split
  · exact ⟨rfl, hc⟩
  · rename_i hb
    split
    · rename_i b hf
      exact ⟨cacheFind_coherent c hc rc v b hf, hc⟩
    · split
      · rename_i b he
        refine ⟨he.symm, ?_⟩
        intro e hmem
        simp only [List.mem_cons] at hmem
        rcases hmem with rfl | hmem
        · exact ⟨he.symm, by simpa using hb⟩
        · exact hc e hmem
      · rename_i e he
        exact ⟨he.symm, hc⟩

theorem evict_coherent (c : Cache) (keep : List Bool) (hc : Coherent c) : Coherent (evict c keep) := by
  intro e he
  simp only [evict, List.mem_filterMap] at he
  obtain ⟨⟨e', k⟩, hmem, hsome⟩ := he
  split at hsome
  · simp at hsome; subst hsome
    exact hc e' (List.of_mem_zip hmem).1
  · simp at hsome

/-- C14 for encoded values: after ANY history of earlier encodings (and evictions), encoding a value gives what
a fresh process gives -/
theorem history_independent (history : List (Nat × AVal × List Bool)) (rc : Nat) (v : AVal) :
    let c := history.foldl (fun c h => evict (cachedWrite c h.1 h.2.1).1 h.2.2) []
    (cachedWrite c rc v).2 = (cachedWrite [] rc v).2 := by
  intro c
  have hc : Coherent c := List.foldlRecOn history _ (fun _ he => nomatch he)
    fun c0 h0 h _ => evict_coherent _ _ (cachedWrite_transparent c0 h0 h.1 h.2.1).2
  rw [(cachedWrite_transparent c hc rc v).1, (cachedWrite_transparent [] (fun _ he => nomatch he) rc v).1]

/-- the two collisions of the unrepaired cache, as facts about the key equality: they are why zeros bypass and
why the cache is typed -/
theorem signed_zero_collides : pyEq (.f64 0) (.f64 (2 ^ 63)) = true ∧ encVal 7 (.f64 0) ≠ encVal 7 (.f64 (2 ^ 63)) := by
  decide +kernel
theorem types_never_collide (i : Int) (b : Bool) (f : Nat) :
    pyEq (.int i) (.bool b) = false ∧ pyEq (.int i) (.f64 f) = false ∧ pyEq (.bool b) (.f64 f) = false := ⟨rfl, rfl, rfl⟩

example : (cachedWrite [((7, .f64 0x3FF0000000000000), .ok [1])] 7 (.f64 0x3FF0000000000000)).2 = .ok [1] := by
  decide +kernel

/-! Values derived at write time: the DIMENSION of a parameter / computation / calibration measurement that the user
did not assign is derived from the values by the write-time checks (`Model/Defaults.lean`, `DimState`).  Whatever
checks went before — writes that succeeded or were refused, with whatever values — a check gives the outcome, and
leaves the dimension, that it gives on an item that only ever saw the user's own assignment. -/
theorem derived_dimension_history_independent (cs : List DimCheck) (c : DimCheck) (s : DimState) :
    c.run (dimHistory cs s) = c.run (DimState.assigned s.forget) := by
  rw [DimCheck.run_fresh, dimHistory_user]

/-- what the user assigned is what every check starts from -/
theorem assigned_dimension_survives (cs : List DimCheck) (d : Option (List Nat)) :
    (dimHistory cs (DimState.assigned d)).forget = d := dimHistory_user cs (DimState.assigned d)

/-- a non-trivial instance: values of per-value shape [2], then of shape [3] (accepted: the dimension is derived anew),
then the user assigns [2] and the same values are refused -/
example :
    let v2 : PyVal := .list [.list [.int 1, .int 2]]
    let v3 : PyVal := .list [.list [.int 1, .int 2, .int 3]]
    let s1 := (paramCheckSt true v2 (some 1) none (DimState.assigned none)).1
    let r2 := paramCheckSt true v3 (some 1) none s1
    s1.held = some [2] ∧ r2.2 = .ok () ∧ r2.1.held = some [3] ∧
      (paramCheckSt true v3 (some 1) none (DimState.assigned (some [2]))).2 = .error .runtime := by
  decide +kernel

/-- the same for the index attributes a frame derives from the rows of a write (`Model/FrameIdx.lean`) -/
theorem derived_index_attributes_history_independent (h : List (Bool × Bool × List Int)) (hc indexed : Bool)
    (xs : List Int) (s : FrameIdx) :
    frameSetup hc indexed xs (frameHistory h s) = frameSetup hc indexed xs s.forget :=
  frameSetup_after_any_history h hc indexed xs s

end Dlis.C14
