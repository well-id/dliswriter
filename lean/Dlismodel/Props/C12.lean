/-
  C12 — Fail-closed: a write either raises or yields a faithful, well-formed file (capstone).

  `modelWrite` composes the layers.  `write_sound`: whenever it returns bytes, the strict physical reader returns
  exactly the logical records of the specification (C02), and each record body decodes to what it was built
  from: set records under the component grammar to their description (C04/C05), no-format records to reference +
  payload (C16), frame records to reference, number and row (C03).  The `rejects_*` theorems are the error
  branches for inputs the format cannot represent.
  PARTIAL: which *Python* inputs reach the model (type checks, numpy dtype validation, completeness checks) is
  tied by the C12 malformed stream.
-/
import Dlismodel.Model.File
import Dlismodel.Props.C02
import Dlismodel.Props.C03
import Dlismodel.Props.C04
import Dlismodel.Props.C16
import Dlismodel.Props.C11
import Dlismodel.Proofs.Convert
import Dlismodel.Props.C07
import Dlismodel.Props.C18
namespace Dlis.C12
open Dlis

theorem mapM_ok_mem {α β : Type} (f : α → Except Err β) (l : List α) (r : List β) (h : l.mapM f = .ok r) :
    ∀ y ∈ r, ∃ x ∈ l, f x = .ok y := by
  induction l generalizing r with
  | nil => simp [List.mapM_nil, pure, Except.pure] at h; subst h; simp
  | cons a as ih =>
    simp only [List.mapM_cons, bind_ok, pure_ok] at h
    obtain ⟨b, hb, bs, hbs, rfl⟩ := h
    intro y hy
    simp only [List.mem_cons] at hy
    rcases hy with rfl | hy
    · exact ⟨a, by simp, hb⟩
    · obtain ⟨x, hx, hfx⟩ := ih bs hbs y hy
      exact ⟨x, by simp [hx], hfx⟩

/-- every record of a logical file carries a one-byte type -/
theorem lfRecs_types (a : WriteArgs) (l : LfSpec) (rs : List Rec) (ht : ∀ p ∈ l.sets, p.1 < 256)
    (h : lfRecs a l = .ok rs) : ∀ r ∈ rs, r.type < 256 := by
  simp only [lfRecs, bind_ok, pure_ok] at h
  obtain ⟨hb, _, ss, hss, ns, hns, fs, hfs, rfl⟩ := h
  intro r hr
  simp only [List.mem_cons, List.mem_append, List.mem_flatten] at hr
  rcases hr with ((rfl | hr) | hr) | ⟨fl, hfl, hr⟩
  · show (0 : Nat) < 256; decide
  · obtain ⟨p, hp, hf⟩ := mapM_ok_mem setRec l.sets ss hss r hr
    simp only [setRec, bind_ok, pure_ok] at hf
    obtain ⟨b, _, rfl⟩ := hf
    exact ht p hp
  · obtain ⟨p, _, hf⟩ := mapM_ok_mem noFormatRec l.noformat ns hns r hr
    simp only [noFormatRec, bind_ok, pure_ok] at hf
    obtain ⟨b, _, rfl⟩ := hf
    show (1 : Nat) < 256; decide
  · obtain ⟨f, _, hf⟩ := mapM_ok_mem (lfFrameRecs a) l.frames fs hfs fl hfl
    simp only [lfFrameRecs, bind_ok, pure_ok] at hf
    obtain ⟨bs, _, rfl⟩ := hf
    simp only [List.mem_map] at hr
    obtain ⟨b, _, rfl⟩ := hr
    show (0 : Nat) < 256; decide

/-- capstone: a successful write is readable back, record for record -/
theorem write_sound (c : Cfg) (a : WriteArgs) (lfs : List LfSpec) (out : Bytes)
    (ht : ∀ l ∈ lfs, ∀ p ∈ l.sets, p.1 < 256) (h : modelWrite c a lfs = .ok out) :
    ∃ rs, lfs.mapM (lfRecs a) = .ok rs ∧
      readFile c out = some (rs.flatten.filter (fun r => !r.body.isEmpty)) := by
  simp only [modelWrite, bind_ok] at h
  obtain ⟨rs, hrs, hf⟩ := h
  refine ⟨rs, hrs, C02.segmentation_lossless c rs.flatten out ?_ hf⟩
  intro r hr
  simp only [List.mem_flatten] at hr
  obtain ⟨rl, hrl, hr⟩ := hr
  obtain ⟨l, hl, hlr⟩ := mapM_ok_mem (lfRecs a) lfs rs hrs rl hrl
  exact lfRecs_types a l rl (ht l hl) hlr r hr

/-- ... and every record body decodes to what it was built from -/
theorem set_record_decodes (p : Nat × SetDesc) (r : Rec) (hs : SetOk p.2) (hne : p.2.objects ≠ [])
    (h : setRec p = .ok r) : r.isEflr = true ∧ r.type = p.1 ∧ ∃ d, parseEflr r.body = some d ∧ SetMatches p.2 d := by
  simp only [setRec, bind_ok, pure_ok] at h
  obtain ⟨b, hb, rfl⟩ := h
  exact ⟨rfl, rfl, C04.parseEflr_setBody p.2 b hs hne hb⟩

theorem noformat_record_decodes (p : ObName × Bytes) (r : Rec) (h : noFormatRec p = .ok r) :
    r.isEflr = false ∧ r.type = 1 ∧
      decNoFormat r.body = some ({ origin := p.1.origin.toNat, copy := p.1.copy.toNat, name := p.1.name.map b8 }, p.2) := by
  simp only [noFormatRec, bind_ok, pure_ok] at h
  obtain ⟨b, hb, rfl⟩ := h
  exact ⟨rfl, rfl, C16.noformat_roundtrip p.1 p.2 b hb⟩

/-! ### inputs that cannot be represented are errors -/

theorem rejects_long_ident (s : PStr) (h : s.length > 255) : encIdent s = .error .value := by
  simp [encIdent, h]

theorem rejects_non_ascii (s : PStr) (h : isAscii s = false) :
    (∃ e, encIdent s = .error e) ∧ (∃ e, encAscii s = .error e) := by
  have hn : ¬ isAscii s = true := by rw [h]; decide
  exact ⟨error_of_not_ok fun hb => hn ((encIdent_ok_iff s).mp hb).1,
    error_of_not_ok fun hb => hn ((encAscii_ok_iff s).mp hb).1⟩

theorem rejects_out_of_range (k : Nat) (v : Int) :
    (¬ (0 ≤ v ∧ v < (256 : Int) ^ k) → ∃ e, encU k v = .error e) ∧
    (¬ (-((256 : Int) ^ k / 2) ≤ v ∧ v < (256 : Int) ^ k / 2) → ∃ e, encS k v = .error e) ∧
    (¬ (0 ≤ v ∧ v < 1073741824) → ∃ e, encUvari v = .error e) :=
  ⟨fun h => error_of_not_ok (mt (encU_ok_iff k v).mp h), fun h => error_of_not_ok (mt (encS_ok_iff k v).mp h),
    fun h => error_of_not_ok (mt (encUvari_ok_iff v).mp h)⟩

theorem rejects_missing_dataset (src : DataSrc) (pre post : List PStr) (ds : PStr)
    (h : lookupDs src ds = none) : frameRowsOf src (pre ++ ds :: post) = .error .value := by
  have : (pre ++ ds :: post).mapM (lookupDs src) = none := by
    induction pre with
    | nil => simp [List.mapM_cons, h]
    | cons p ps ih =>
      simp only [List.cons_append, List.mapM_cons]
      cases lookupDs src p <;> simp [ih]
  simp [frameRowsOf, this]

theorem rejects_unequal_rows (src : DataSrc) (mapping : List PStr) (c0 : List Slot) (cols : List (List Slot))
    (hm : mapping.mapM (lookupDs src) = some (c0 :: cols)) (hne : ∃ c ∈ cols, c.length ≠ c0.length) :
    frameRowsOf src mapping = .error .value := by
  obtain ⟨c, hc, hl⟩ := hne
  have : (c0 :: cols).all (fun c => c.length == c0.length) = false := by
    simp only [List.all_cons, beq_self_eq_true, Bool.true_and, List.all_eq_false]
    exact ⟨c, hc, by simpa using hl⟩
  simp [frameRowsOf, hm, this]

/-- a degenerate but representable value — the empty list — is written faithfully: count 0, no value -/
theorem empty_list_faithful (a : AttrSt) (h0 : a.vals = []) (hl : a.isList = true) :
    a.count = 0 ∧ descByte a % 2 = 0 ∧ descByte a / 8 % 2 = 1 := C04.empty_list_encoding a h0 hl

/-! ### fail-closed at the attribute setters (`Model/Convert.lean`) -/

/-- a text attribute refuses everything that is not a `str`; a numeric one everything that is not a number; a
status one every number other than 0 and 1; a reference attribute every item of another type -/
theorem text_rejects_non_str {hc : Bool} {rc : Except Err (Option Nat)} {mem : List PStr} (v : PyVal)
    (h : ∀ s ec p, v ≠ .str s ec p) : applyConv .text hc rc mem v = .error .type := by
  cases v <;> simp [applyConv] ; exact absurd rfl (h _ _ _)

theorem numeric_rejects_non_number {hc intOnly : Bool} {rc : Option Nat} {mem : List PStr} (v : PyVal)
    (h : isNumber v = false) : applyConv (.numeric intOnly) hc (.ok rc) mem v = .error .type := by
  cases v <;> simp [isNumber] at h <;> simp [applyConv, intParser, floatParser, isNumber] <;>
    (repeat' split) <;> rfl

theorem numeric_int_rejects_fraction {hc : Bool} {rc : Except Err (Option Nat)} {mem : List PStr} (f : Nat)
    (h : f64ToInt f = none) : applyConv (.numeric true) hc rc mem (.float f) = .error .value := by
  simp [applyConv, intParser, h]

theorem status_rejects_other_numbers {hc : Bool} {rc : Except Err (Option Nat)} {mem : List PStr} (i : Int)
    (h : i ≠ 0 ∧ i ≠ 1) : applyConv .status hc rc mem (.int i) = .error .value := by
  simp [applyConv, h.1, h.2]

theorem reference_rejects_other_type {hc : Bool} {rc : Except Err (Option Nat)} {mem : List PStr} (c : String)
    (t : PStr) (o : ObName) (h : setTypeStr t ≠ c) : applyConv (.eflr (some c)) hc rc mem (.obj t o) = .error .type := by
  simp [applyConv, h]

/-- a rejected value leaves the attribute as it was -/
theorem rejected_assignment_keeps_state (a : AttrSpec) (hc : Bool) (mem um : List PStr) (st : AttrState) (v : PyVal)
    (ps : List Part) (e : Err) (h : setValue a hc mem st v = .error e) :
    assignParts a hc mem um st (.value v :: ps) = (st, some e) := by
  simp [assignParts, h]

/-! ### fail-closed before the first byte: the write-time object checks (`Model/Checks.lean`) -/

/-- a logical file without an origin, without a channel or without a frame: `write` refuses -/
theorem rejects_incomplete_logical_file (w : World) (c f : Nat) (es : List Edge) (fid : Nat → Bool) (lf : Nat)
    (hlf : lf < w.keys.length)
    (h : (originsOfLf w lf).isEmpty = true ∨ (itemsOfKind w lf c).isEmpty = true ∨ (itemsOfKind w lf f).isEmpty = true) :
    acceptWrite w c f es fid ≠ .ok () := by
  intro hacc
  obtain ⟨h1, h2, h3⟩ := (checkCompleteness_iff w lf c f).mp (accepted_checks hacc hlf).1
  rw [h1, h2, h3] at h
  simp at h

/-- a non-empty set registered by two logical files (whatever lies between them): `write` refuses -/
theorem rejects_shared_set (w : World) (c f : Nat) (es : List Edge) (fid : Nat → Bool) (a b : Nat) (k : Key)
    (hab : a < b) (hb : b < w.keys.length) (ka : k ∈ lfKeys w a) (kb : k ∈ lfKeys w b) (hne : itemsOfKey w k ≠ []) :
    acceptWrite w c f es fid ≠ .ok () := by
  intro hacc
  have hw := ((acceptWrite_iff w c f es fid).mp hacc).2
  rw [C18.shared_set_rejected w a b k hab hb ka kb hne] at hw
  exact Bool.noConfusion hw

/-- a reference to an object of another logical file: `write` refuses (C07) -/
theorem rejects_foreign_reference (n : Nat) (ops : List Op) (hv : ∀ op ∈ ops, op.lf < n)
    (c f : Nat) (es : List Edge) (fid : Nat → Bool) (e : Edge) (he : e ∈ es)
    (hh : e.holder < (run (World.init n) ops).items.length) (ht : e.target < (run (World.init n) ops).items.length)
    (hne : (run (World.init n) ops).items[e.target].lf ≠ (run (World.init n) ops).items[e.holder].lf) :
    acceptWrite (run (World.init n) ops) c f es fid ≠ .ok () :=
  C07.foreign_reference_refused n ops hv c f es fid e he hh ht hne

/-- non-vacuity: three logical files, the first and the third sharing a set -/
example :
    let w := run (World.init 3) [.origin 0 (some [48]) [79] none .ok, .item 0 11 (some [48]) [67] none .ok,
      .item 0 12 (some [48]) [70] none .ok, .origin 1 (some [49]) [79] none .ok, .item 1 11 (some [49]) [67] none .ok,
      .item 1 12 (some [49]) [70] none .ok, .origin 2 (some [50]) [79] none .ok, .item 2 11 (some [50]) [67] none .ok,
      .item 2 12 (some [50]) [70] none .ok, .item 0 1 none [90] none .ok, .item 2 1 none [90] none .ok]
    acceptWrite w 11 12 [] (fun _ => true) = .error .sharedSet := by decide +kernel

end Dlis.C12
