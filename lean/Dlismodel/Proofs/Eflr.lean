import Dlismodel.Model.Eflr
import Dlismodel.Model.ParseEflr
import Dlismodel.Proofs.Prim
import Dlismodel.Proofs.Seg
namespace Dlis

theorem encStatus_len {v : Int} {bs : Bytes} (h : encStatus v = .ok bs) : bs.length = 1 := by
  rw [(encStatus_eq_ok.mp h).2]; rfl

theorem encDtime_length {t : DTime} {bs : Bytes} (h : encDtime t = .ok bs) : bs.length = 8 := by
  rw [(encDtime_ok h).2]; rfl

def obnameVal (o : ObName) : ObNameVal := { origin := o.origin.toNat, copy := o.copy.toNat, name := o.name.map b8 }

/-- pointwise relation between two lists of equal length -/
inductive All2 {α β : Type} (R : α → β → Prop) : List α → List β → Prop
  | nil : All2 R [] []
  | cons {a b as bs} : R a b → All2 R as bs → All2 R (a :: as) (b :: bs)

theorem All2_length {α β : Type} {R : α → β → Prop} {as : List α} {bs : List β} (h : All2 R as bs) :
    as.length = bs.length := by
  induction h with
  | nil => rfl
  | cons _ _ ih => simp [ih]

theorem All2_imp {α β : Type} {R S : α → β → Prop} {as : List α} {bs : List β}
    (himp : ∀ a b, a ∈ as → R a b → S a b) (h : All2 R as bs) : All2 S as bs := by
  induction h with
  | nil => exact All2.nil
  | cons hab _ ih =>
    exact All2.cons (himp _ _ (by simp) hab) (ih (fun a b ha => himp a b (by simp [ha])))

theorem All2_get {α β : Type} {R : α → β → Prop} {as : List α} {bs : List β} (h : All2 R as bs) :
    ∀ i (hi : i < as.length) (hi' : i < bs.length), R as[i] bs[i] := by
  induction h with
  | nil => intro i hi; cases hi
  | cons hab _ ih =>
    intro i hi hi'
    cases i with
    | zero => exact hab
    | succ j => exact ih j (Nat.lt_of_succ_lt_succ hi) (Nat.lt_of_succ_lt_succ hi')

end Dlis

namespace Dlis

/-! ### `write_struct` by cases

`encVal rc v` first takes `v` as what the code packs — an integer, a double, a single, a text (the conversions
below, which `struct.pack` and `str()` make silently) — and then calls the primitive encoder of the code.  `Wrote`
lists the successful runs by that encoder; `encVal_wrote` is the one place where `encVal` is taken apart. -/

def AVal.toInt : AVal → Option Int
  | .int i => some i | .bool b => some (if b then 1 else 0) | _ => none

def AVal.toDouble : AVal → Option Nat
  | .f64 b => some b | .f32 b => f32ToF64 b | .int i => intToF64 i
  | .bool b => some (if b then 0x3FF0000000000000 else 0) | _ => none

def AVal.toSingle : AVal → Option Nat
  | .f32 b => if b < 2 ^ 32 then some b else none
  | .f64 b => if b < 2 ^ 64 then (f64ToF32 b).toOption else none
  | .int i => (intToF64 i).bind fun d => (f64ToF32 d).toOption
  | .bool b => some (if b then 0x3F800000 else 0) | _ => none

def AVal.toText : AVal → Option PStr
  | .str s => some s | .int i => some (intStr i) | .bool b => some (boolStr b) | _ => none

inductive Wrote : Nat → AVal → Bytes → Prop
  | signed {rc k v i b} : rc = 12 ∧ k = 1 ∨ rc = 13 ∧ k = 2 ∨ rc = 14 ∧ k = 4 → AVal.toInt v = some i → encS k i = .ok b →
      Wrote rc v b
  | unsigned {rc k v i b} : rc = 15 ∧ k = 1 ∨ rc = 16 ∧ k = 2 ∨ rc = 17 ∧ k = 4 → AVal.toInt v = some i →
      encU k i = .ok b → Wrote rc v b
  | uvari {v i b} : AVal.toInt v = some i → encUvari i = .ok b → Wrote 18 v b
  | status {v i b} : AVal.toInt v = some i → encStatus i = .ok b → Wrote 26 v b
  | double {v d} : AVal.toDouble v = some d → d < 2 ^ 64 → Wrote 7 v (beN 8 d)
  | single {v r} : AVal.toSingle v = some r → Wrote 2 v (beN 4 r)
  | ident {v s b} : AVal.toText v = some s → encIdent s = .ok b → Wrote 19 v b
  | ascii {v s b} : AVal.toText v = some s → encAscii s = .ok b → Wrote 20 v b
  | dtime {t b} : encDtime t = .ok b → Wrote 21 (.dtime t) b
  | obname {t o b} : encObname o = .ok b → Wrote 23 (.obj t o) b
  | objref {t o b} : encObjref t o = .ok b → Wrote 24 (.obj t o) b

theorem toInt_ok {enc : Int → Except Err Bytes} {v : AVal} {b : Bytes}
    (h : (match AVal.toInt v with | some i => enc i | none => .error .struct) = .ok b) :
    ∃ i, AVal.toInt v = some i ∧ enc i = .ok b := by
  cases hi : AVal.toInt v with
  | none => rw [hi] at h; cases h
  | some i => rw [hi] at h; exact ⟨i, rfl, h⟩

theorem encVal_wrote {rc : Nat} {v : AVal} {b : Bytes} (h : encVal rc v = .ok b) : Wrote rc v b := by
  unfold encVal at h
  dsimp only at h
  split at h
  · obtain ⟨i, hi, h⟩ := toInt_ok h; exact .signed (.inl ⟨rfl, rfl⟩) hi h
  · obtain ⟨i, hi, h⟩ := toInt_ok h; exact .signed (.inr (.inl ⟨rfl, rfl⟩)) hi h
  · obtain ⟨i, hi, h⟩ := toInt_ok h; exact .signed (.inr (.inr ⟨rfl, rfl⟩)) hi h
  · obtain ⟨i, hi, h⟩ := toInt_ok h; exact .unsigned (.inl ⟨rfl, rfl⟩) hi h
  · obtain ⟨i, hi, h⟩ := toInt_ok h; exact .unsigned (.inr (.inl ⟨rfl, rfl⟩)) hi h
  · obtain ⟨i, hi, h⟩ := toInt_ok h; exact .unsigned (.inr (.inr ⟨rfl, rfl⟩)) hi h
  · obtain ⟨i, hi, h⟩ := toInt_ok h; exact .uvari hi h
  · cases v with
    | int i => exact .status (i := i) rfl h
    | bool x => exact .status (i := if x then 1 else 0) rfl h
    | _ => cases h
  · cases v with
    | f64 n => obtain ⟨hn, hb⟩ := ite_ok.mp h; rw [hb]; exact .double rfl hn
    | f32 n =>
      dsimp only at h
      cases hw : f32ToF64 n with
      | none => rw [hw] at h; cases h
      | some d => rw [hw] at h; obtain ⟨hd, hb⟩ := ite_ok.mp h; rw [hb]; exact .double hw hd
    | int i =>
      dsimp only at h
      cases hw : intToF64 i with
      | none => rw [hw] at h; cases h
      | some d => rw [hw] at h; obtain ⟨hd, hb⟩ := ite_ok.mp h; rw [hb]; exact .double hw hd
    | bool x => cases Except.ok.inj h; exact .double rfl (by cases x <;> decide)
    | _ => cases h
  · cases v with
    | f32 n => obtain ⟨hn, hb⟩ := ite_ok.mp h; rw [hb]; exact .single (if_pos hn)
    | f64 n =>
      dsimp only at h; split at h
      · obtain ⟨r, hr, rfl⟩ := emap_ok.mp h
        exact .single (by show (if n < 2 ^ 64 then (f64ToF32 n).toOption else none) = _; rw [if_pos ‹_›, hr]; rfl)
      · cases h
    | int i =>
      dsimp only at h
      cases hw : intToF64 i with
      | none => rw [hw] at h; cases h
      | some d =>
        rw [hw] at h
        obtain ⟨r, hr, rfl⟩ := emap_ok.mp h
        exact .single (by show (intToF64 i).bind _ = _; rw [hw]; show (f64ToF32 d).toOption = _; rw [hr]; rfl)
    | bool x => cases Except.ok.inj h; exact .single rfl
    | _ => cases h
  · cases v with
    | str s => exact .ident (s := s) rfl h
    | int i => exact .ident (s := intStr i) rfl h
    | bool x => exact .ident (s := boolStr x) rfl h
    | _ => cases h
  · cases v with
    | str s => exact .ascii (s := s) rfl h
    | int i => exact .ascii (s := intStr i) rfl h
    | bool x => exact .ascii (s := boolStr x) rfl h
    | _ => cases h
  · cases v with
    | dtime t => exact .dtime h
    | _ => cases h
  · cases v with
    | obj t o => exact .obname h
    | _ => cases h
  · cases v with
    | obj t o => exact .objref h
    | _ => cases h
  · cases h

/-! ### the reader splits off what the writer encodes

`valSplit rc` finds the end of a value by the strict decoder `dec` of the code — which one is read off the
definition by `rfl` — or by the fixed width, so it follows the decoder's round trip `dec (b ++ rest) = some (x, rest)`
of Proofs/Prim.lean, or the encoder's length. -/

/-- `valSplit`'s local `viaRest`: the value ends where a variable-length decoder stops -/
def cutAt (bs : Bytes) (r : Option Bytes) : Option (Bytes × Bytes) :=
  match r with
  | some rest => if rest.length ≤ bs.length then some (bs.take (bs.length - rest.length), rest) else none
  | none => none

theorem cutAt_append (b rest : Bytes) : cutAt (b ++ rest) (some rest) = some (b, rest) := by
  have : (b ++ rest).length - rest.length = b.length := by simp
  simp only [cutAt]
  rw [if_pos (by simp), this, List.take_left]

theorem valSplit_of_length {rc k : Nat} {b : Bytes} (hs : valSplit rc = takeN k) (hb : b.length = k) (rest : Bytes) :
    valSplit rc (b ++ rest) = some (b, rest) := by
  rw [hs, ← hb, takeN_append]

theorem valSplit_of_dec {α : Type} {rc : Nat} {dec : Bytes → Option (α × Bytes)} {b rest : Bytes} {x : α}
    (hd : dec (b ++ rest) = some (x, rest)) (hs : ∀ bs, valSplit rc bs = cutAt bs ((dec bs).map (·.2))) :
    valSplit rc (b ++ rest) = some (b, rest) := by
  rw [hs, hd]; exact cutAt_append b rest

/-- every value the writer can encode is split off exactly by the reader -/
theorem valSplit_encVal (rc : Nat) (v : AVal) (b rest : Bytes) (h : encVal rc v = .ok b) :
    valSplit rc (b ++ rest) = some (b, rest) := by
  cases encVal_wrote h with
  | signed hk _ h =>
    rcases hk with ⟨rfl, rfl⟩ | ⟨rfl, rfl⟩ | ⟨rfl, rfl⟩ <;> exact valSplit_of_length rfl (encS_length h) rest
  | unsigned hk _ h =>
    rcases hk with ⟨rfl, rfl⟩ | ⟨rfl, rfl⟩ | ⟨rfl, rfl⟩ <;> exact valSplit_of_length rfl (encU_length h) rest
  | uvari _ h => exact valSplit_of_dec (decUvari_encUvari h rest) (fun _ => rfl)
  | status _ h => exact valSplit_of_dec (decStatus_encStatus h rest) (fun _ => rfl)
  | double _ _ => exact valSplit_of_length rfl (beN_length 8 _) rest
  | single _ => exact valSplit_of_length rfl (beN_length 4 _) rest
  | ident _ h => exact valSplit_of_dec (decIdent_encIdent h rest) (fun _ => rfl)
  | ascii _ h => exact valSplit_of_dec (decAscii_encAscii h rest) (fun _ => rfl)
  | dtime h => exact valSplit_of_length rfl (encDtime_length h) rest
  | obname h => exact valSplit_of_dec (decObname_encObname h rest) (fun _ => rfl)
  | objref h => exact valSplit_of_dec (decObjref_encObjref h rest) (fun _ => rfl)

end Dlis

namespace Dlis

/-! ### values of one attribute -/

def encValsL (rc : Nat) : List AVal → Except Err (List Bytes)
  | [] => .ok []
  | v :: vs => do
    let b ← encVal rc v
    let bs ← encValsL rc vs
    pure (b :: bs)

/-- the encoded values of an attribute, one byte string per value -/
def attrValsL (a : AttrSt) : Except Err (List Bytes) :=
  if a.vals.isEmpty then .ok [] else
  match a.rc with
  | some r => encValsL r a.vals
  | none => .error .attr

theorem encVals_eq (rc : Nat) (vs : List AVal) : encVals rc vs = List.flatten <$> encValsL rc vs := by
  induction vs with
  | nil => rfl
  | cons v vs ih =>
    simp only [encVals, encValsL, ih]
    cases encVal rc v <;> cases encValsL rc vs <;> rfl

theorem valsBody_eq (a : AttrSt) : valsBody a = List.flatten <$> attrValsL a := by
  unfold valsBody attrValsL
  split
  · rfl
  · cases a.rc with
    | some r => exact encVals_eq r a.vals
    | none => rfl

/-- `encValsL` value by value: the one induction over it -/
theorem encValsL_all2 {rc : Nat} {vs : List AVal} {bl : List Bytes} (h : encValsL rc vs = .ok bl) :
    All2 (fun v b => encVal rc v = .ok b) vs bl := by
  induction vs generalizing bl with
  | nil => cases h; exact .nil
  | cons v vs ih =>
    simp only [encValsL, bind_ok, pure_ok] at h
    obtain ⟨b1, hb1, bs, hbs, rfl⟩ := h
    exact .cons hb1 (ih hbs)

theorem encValsL_length {rc : Nat} {vs : List AVal} {bl : List Bytes} (h : encValsL rc vs = .ok bl) :
    bl.length = vs.length :=
  (All2_length (encValsL_all2 h)).symm

theorem attrValsL_length {a : AttrSt} {bl : List Bytes} (h : attrValsL a = .ok bl) : bl.length = a.vals.length := by
  unfold attrValsL at h
  split at h
  · cases h; rw [List.isEmpty_iff.mp ‹a.vals.isEmpty = true›]; rfl
  · split at h
    · exact encValsL_length h
    · cases h

theorem valsSplit_one {rc : Nat} {bs v rest : Bytes} (h : valSplit rc bs = some (v, rest)) :
    valsSplit rc 1 bs = some ([v], rest) := by
  simp only [valsSplit, h]

theorem valsSplit_all2 {r : Nat} {vs : List AVal} {bl : List Bytes} (h : All2 (fun v b => encVal r v = .ok b) vs bl)
    (rest : Bytes) : valsSplit r vs.length (bl.flatten ++ rest) = some (bl, rest) := by
  induction h with
  | nil => rfl
  | cons hb _ ih =>
    simp only [List.length_cons, valsSplit, List.flatten_cons, List.append_assoc]
    rw [valSplit_encVal r _ _ _ hb]
    simp only [ih]

end Dlis

namespace Dlis

/-! ### one attribute component -/

/-- the attribute descriptor: role ATTRIB, no label, and one bit for each field that follows.  A fact about four
bits, so it is checked on the sixteen descriptors. -/
theorem descByte_bits (a : AttrSt) :
    descByte a < 256 ∧ descByte a / 32 = 1 ∧ descByte a / 16 % 2 = 0 ∧ (descByte a / 8 % 2 = 1 ↔ a.count ≠ 1) ∧
      (descByte a / 4 % 2 = 1 ↔ a.rc.isSome = true) ∧ (descByte a / 2 % 2 = 1 ↔ hasUnits a = true) ∧
      (descByte a % 2 = 1 ↔ a.vals ≠ []) := by
  have hv : a.vals ≠ [] ↔ (!a.vals.isEmpty) = true := by cases a.vals <;> simp
  have hc : a.count ≠ 1 ↔ decide (a.count ≠ 1) = true := by simp
  rw [hv, hc]
  unfold descByte
  rw [show (if a.count ≠ 1 then 8 else 0) = (if decide (a.count ≠ 1) = true then 8 else 0) by simp]
  generalize (!a.vals.isEmpty) = v, hasUnits a = u, a.rc.isSome = r, decide (a.count ≠ 1) = c
  revert c r u v
  decide

/-- side conditions on an attribute's state that the object model guarantees: a defined representation code,
and a scalar value is exactly one value -/
def AttrOk (a : AttrSt) : Prop :=
  (∀ r, a.rc = some r → 1 ≤ r ∧ r ≤ 27) ∧ (a.isList = false → a.vals.length = 1)

theorem AttrOk.count_eq {a : AttrSt} (hok : AttrOk a) : a.count = a.vals.length := by
  unfold AttrSt.count
  cases hl : a.isList
  · exact (hok.2 hl).symm
  · rfl

/-- what the reader must see for an attribute: explicit or default count, the code, the units, one entry per value -/
def attrContent (a : AttrSt) (bl : List Bytes) : DAttr :=
  { count := a.count, rc := a.rc.getD 19, units := if hasUnits a then (a.units.getD []).map b8 else [], vals := bl }

def plainT (t : TAttr) : Prop := t.count = 1 ∧ t.rc = 19 ∧ t.units = []

/-- count, representation code and units: each is written iff it differs from the default (1, none, none), its
descriptor bit says so, and where it is not written the plain template entry supplies that default -/
theorem parseCRU_attr (a : AttrSt) (t : TAttr) (ht : plainT t) (hok : AttrOk a)
    (cnt ub tail : Bytes) (hcnt : cntBytes a = .ok cnt) (hub : unitsBytes a = .ok ub) :
    parseCRU (descByte a) t (cnt ++ (rcBytes a ++ (ub ++ tail))) =
      some ((a.count, a.rc.getD 19, if hasUnits a then (a.units.getD []).map b8 else []), tail) := by
  obtain ⟨_, _, _, hc, hr, hu, _⟩ := descByte_bits a
  obtain ⟨t1, t2, t3⟩ := ht
  generalize descByte a = d at *
  have e1 : (if d / 8 % 2 = 1 then decUvari (cnt ++ (rcBytes a ++ (ub ++ tail)))
      else some (t.count, cnt ++ (rcBytes a ++ (ub ++ tail)))) = some (a.count, rcBytes a ++ (ub ++ tail)) := by
    unfold cntBytes at hcnt
    split at hcnt
    · rw [if_pos (hc.mpr ‹_›), decUvari_encUvari hcnt]; rfl
    · cases hcnt
      rw [if_neg (mt hc.mp ‹_›), t1, ← Decidable.not_not.mp ‹¬a.count ≠ 1›]; rfl
  have e3 : (if d / 2 % 2 = 1 then decIdent (ub ++ tail) else some (t.units, ub ++ tail)) =
      some (if hasUnits a then (a.units.getD []).map b8 else [], tail) := by
    unfold unitsBytes at hub
    split at hub
    · rw [if_pos (hu.mpr ‹_›), decIdent_encIdent hub, if_pos ‹_›]
    · cases hub
      rw [if_neg (mt hu.mp ‹_›), t3, if_neg ‹_›]; rfl
  unfold parseCRU
  rw [e1]; dsimp only
  unfold rcBytes
  cases hrc : a.rc with
  | none =>
    rw [if_neg (by rw [hr, hrc]; decide), t2]; dsimp only
    rw [if_neg (by decide), List.nil_append, e3]; rfl
  | some r =>
    have := hok.1 r hrc
    rw [if_pos (by rw [hr, hrc]; rfl)]
    simp only [List.cons_append, List.nil_append, b8_toNat, Nat.mod_eq_of_lt (show r < 256 by omega)]
    rw [if_neg (by omega), e3]; rfl

end Dlis

namespace Dlis

/-! ### attribute components inside an object -/

/-- `parseOAttrs` on an ATTRIB component without label: the fields its descriptor announces, then `count` values
if the value bit is set and, if it is not, a count of 0 -/
theorem parseOAttrs_attrib {t : TAttr} {ts : List TAttr} {d : UInt8} {cnt rc : Nat} {u r0 r1 r2 : Bytes}
    {vs : List Bytes} (h32 : d.toNat / 32 = 1) (h16 : d.toNat / 16 % 2 = 0)
    (hcru : parseCRU d.toNat t r0 = some ((cnt, rc, u), r1))
    (hv : (if d.toNat % 2 = 1 then valsSplit rc cnt r1 else if cnt = 0 then some ([], r1) else none) = some (vs, r2)) :
    parseOAttrs (t :: ts) (d :: r0) =
      (parseOAttrs ts r2).map fun (as, r) => (some { count := cnt, rc := rc, units := u, vals := vs } :: as, r) := by
  rw [parseOAttrs]; dsimp only
  rw [if_neg (by omega), if_neg (by omega), if_pos h32, if_neg (by omega), hcru]; dsimp only
  rw [hv]

/-- one assigned attribute, read back in template position `t`, followed by anything -/
theorem parseOAttrs_some (a : AttrSt) (t : TAttr) (ts : List TAttr) (ht : plainT t) (hok : AttrOk a)
    (body tail : Bytes) (h : attrBody a = .ok body) :
    ∃ bl, attrValsL a = .ok bl ∧
      parseOAttrs (t :: ts) (body ++ tail) =
        (parseOAttrs ts tail).map fun (as, r) => (some (attrContent a bl) :: as, r) := by
  simp only [attrBody, bind_ok, pure_ok, valsBody_eq, map_ok] at h
  obtain ⟨cnt, hcnt, ub, hub, _, ⟨bl, hbl, rfl⟩, rfl⟩ := h
  refine ⟨bl, hbl, ?_⟩
  obtain ⟨hlt, h32, h16, _, _, _, hv⟩ := descByte_bits a
  have hd : (b8 (descByte a)).toNat = descByte a := by rw [b8_toNat, Nat.mod_eq_of_lt hlt]
  simp only [List.cons_append, List.append_assoc]
  refine parseOAttrs_attrib (by rwa [hd]) (by rwa [hd]) (by rw [hd]; exact parseCRU_attr a t ht hok cnt ub _ hcnt hub) ?_
  -- the value bit is set iff there are values; there are `count` of them, a scalar counting as one (`AttrOk`)
  rw [hd, hok.count_eq]
  unfold attrValsL at hbl
  split at hbl
  · cases hbl
    have h0 := List.isEmpty_iff.mp ‹_›
    rw [if_neg (by rw [hv, h0]; exact fun h => h rfl), h0]; rfl
  · rw [if_pos (hv.mpr (by rwa [ne_eq, ← List.isEmpty_iff]))]
    split at hbl
    · rename_i r hrc
      rw [hrc]; exact valsSplit_all2 (encValsL_all2 hbl) tail
    · cases hbl

end Dlis

namespace Dlis

theorem parseOAttrs_absent (t : TAttr) (ts : List TAttr) (bs : Bytes) :
    parseOAttrs (t :: ts) (0 :: bs) = (parseOAttrs ts bs).map fun (as, r) => (none :: as, r) := rfl

/-- all attributes of one object -/
theorem parseOAttrs_attrs (attrs : List (Option AttrSt)) (ts : List TAttr) (hlen : attrs.length = ts.length)
    (hts : ∀ t ∈ ts, plainT t) (hok : ∀ a, some a ∈ attrs → AttrOk a) (body tail : Bytes)
    (h : attrsBody attrs = .ok body) :
    ∃ cs, All2 (fun a c => match a, c with
        | none, none => True
        | some a, some c => ∃ bl, attrValsL a = .ok bl ∧ c = attrContent a bl
        | _, _ => False) attrs cs ∧ parseOAttrs ts (body ++ tail) = some (cs, tail) := by
  induction attrs generalizing ts body with
  | nil =>
    cases h
    cases ts with
    | nil => exact ⟨[], .nil, rfl⟩
    | cons => cases hlen
  | cons a as ih =>
    cases ts with
    | nil => cases hlen
    | cons t ts =>
      have ih' := ih ts (Nat.succ.inj hlen) (fun t' h' => hts t' (.tail _ h')) (fun a' h' => hok a' (.tail _ h'))
      cases a with
      | none =>
        simp only [attrsBody, bind_ok, pure_ok] at h
        obtain ⟨r, hr, rfl⟩ := h
        obtain ⟨cs, hcs, hp⟩ := ih' r hr
        exact ⟨none :: cs, .cons trivial hcs, by rw [List.cons_append, parseOAttrs_absent, hp]; rfl⟩
      | some a =>
        simp only [attrsBody, bind_ok, pure_ok] at h
        obtain ⟨b, hb, r, hr, rfl⟩ := h
        obtain ⟨cs, hcs, hp⟩ := ih' r hr
        obtain ⟨bl, hbl, hpa⟩ := parseOAttrs_some a t ts (hts t (.head _)) (hok a (.head _)) b (r ++ tail) hb
        exact ⟨some (attrContent a bl) :: cs, .cons ⟨bl, hbl, rfl⟩ hcs, by rw [List.append_assoc, hpa, hp]; rfl⟩

def AttrMatches (a : Option AttrSt) (c : Option DAttr) : Prop :=
  match a, c with
  | none, none => True
  | some a, some c => ∃ bl, attrValsL a = .ok bl ∧ c = attrContent a bl
  | _, _ => False

end Dlis

namespace Dlis

/-! ### objects, template, set -/

/-- the reader's view of one object agrees with its description: same identity, one slot per template
attribute, unset ↔ absent, and every assigned attribute with its count, code, units and one entry per value -/
def ObjMatches (o : ObjDesc) (d : DObj) : Prop :=
  d.name = obnameVal o.name ∧ d.attrs.length = o.attrs.length ∧
    ∀ i (hi : i < o.attrs.length) (hi' : i < d.attrs.length), AttrMatches o.attrs[i] d.attrs[i]

def ObjOk (n : Nat) (o : ObjDesc) : Prop := o.attrs.length = n ∧ ∀ a, some a ∈ o.attrs → AttrOk a

theorem objsBody_head (os : List ObjDesc) (r : Bytes) (h : objsBody os = .ok r) :
    (os = [] ∧ r = []) ∨ (os ≠ [] ∧ ∃ r', r = 0x70 :: r') := by
  cases os with
  | nil => cases h; exact Or.inl ⟨rfl, rfl⟩
  | cons o os =>
    simp only [objsBody, objBody, bind_ok, pure_ok] at h
    obtain ⟨b, ⟨n, _, a, _, rfl⟩, r2, _, rfl⟩ := h
    exact Or.inr ⟨List.cons_ne_nil _ _, _, rfl⟩

/-- `parseObjs` on an OBJECT component whose attributes run up to the next object or to the end -/
theorem parseObjs_cons {tmpl : List TAttr} {fuel : Nat} {n : ObNameVal} {as : List (Option DAttr)} {r0 r1 r2 : Bytes}
    (hn : decObname r0 = some (n, r1)) (ha : parseOAttrs tmpl r1 = some (as, r2))
    (hr2 : r2 = [] ∨ ∃ r', r2 = 0x70 :: r') :
    parseObjs tmpl (fuel + 1) (0x70 :: r0) = (parseObjs tmpl fuel r2).map ({ name := n, attrs := as } :: ·) := by
  rw [parseObjs, if_neg (by decide), hn]; dsimp only
  rw [ha]; dsimp only
  rcases hr2 with rfl | ⟨r', rfl⟩
  · cases fuel <;> rfl
  · exact if_neg (by decide)

theorem parseObjs_objsBody (tmpl : List TAttr) (htm : ∀ t ∈ tmpl, plainT t) :
    ∀ (os : List ObjDesc) (body : Bytes) (fuel : Nat), (∀ o ∈ os, ObjOk tmpl.length o) → body.length ≤ fuel →
      objsBody os = .ok body →
      ∃ ds, parseObjs tmpl fuel body = some ds ∧ All2 ObjMatches os ds := by
  intro os
  induction os with
  | nil =>
    intro body fuel _ _ h
    cases h
    exact ⟨[], by cases fuel <;> rfl, .nil⟩
  | cons o os ih =>
    intro body fuel hok hf h
    simp only [objsBody, bind_ok, pure_ok] at h
    obtain ⟨b, hb, r, hr, rfl⟩ := h
    simp only [objBody, bind_ok, pure_ok] at hb
    obtain ⟨n, hn, a, ha, rfl⟩ := hb
    obtain ⟨f, rfl⟩ : ∃ f, fuel = f + 1 := ⟨fuel - 1, by rw [List.length_append, List.length_cons] at hf; omega⟩
    obtain ⟨hl, hoa⟩ := hok o (.head _)
    obtain ⟨cs, hcs, hp⟩ := parseOAttrs_attrs o.attrs tmpl hl htm hoa a r ha
    obtain ⟨ds, hds, hfa⟩ := ih r f (fun o' h' => hok o' (.tail _ h'))
      (by simp only [List.length_append, List.length_cons] at hf; omega) hr
    refine ⟨{ name := obnameVal o.name, attrs := cs } :: ds, ?_,
      .cons ⟨rfl, (All2_length hcs).symm, All2_get hcs⟩ hfa⟩
    rw [List.cons_append, List.append_assoc, parseObjs_cons (decObname_encObname hn _) hp, hds]; · rfl
    rcases objsBody_head os r hr with ⟨_, rfl⟩ | ⟨_, h'⟩
    · exact .inl rfl
    · exact .inr h'

end Dlis

namespace Dlis

def tattrOf (l : PStr) : TAttr := { label := l.map b8 }

theorem plainT_tattrOf (l : PStr) : plainT (tattrOf l) := ⟨rfl, rfl, rfl⟩

/-- `parseTAttr` on a template component: descriptor (role ATTRIB, with label, without value), the label, then
the fields the descriptor announces -/
theorem parseTAttr_label {d : UInt8} {c rc : Nat} {l : PStr} {lb r0 r1 u : Bytes} (h32 : d.toNat / 32 = 1)
    (h16 : d.toNat / 16 % 2 = 1) (h1 : d.toNat % 2 = 0) (hl : encIdent l = .ok lb) (hne : l ≠ [])
    (hcru : parseCRU d.toNat { label := l.map b8 } r0 = some ((c, rc, u), r1)) :
    parseTAttr (d :: (lb ++ r0)) = some ({ label := l.map b8, count := c, rc := rc, units := u }, r1) := by
  rw [parseTAttr, if_neg (by omega), decIdent_encIdent hl]; dsimp only
  rw [if_neg (by cases l <;> simp_all), hcru]

theorem parseTemplate_cons {fuel : Nat} {d : UInt8} {r rest : Bytes} {t : TAttr} (hd : d.toNat / 32 ≠ 3)
    (h : parseTAttr (d :: r) = some (t, rest)) :
    parseTemplate (fuel + 1) (d :: r) = (parseTemplate fuel rest).map fun (ts, r) => (t :: ts, r) := by
  rw [parseTemplate, if_neg hd, h]

theorem parseTemplate_stop (fuel : Nat) {d : UInt8} (bs : Bytes) (hd : d.toNat / 32 = 3) :
    parseTemplate (fuel + 1) (d :: bs) = some ([], d :: bs) := by
  rw [parseTemplate, if_pos hd]

theorem parseTemplate_templBody : ∀ (labels : List PStr) (body rest : Bytes) (fuel : Nat),
    (∀ l ∈ labels, l ≠ []) → body.length < fuel → templBody labels = .ok body →
    parseTemplate fuel (body ++ 0x70 :: rest) = some (labels.map tattrOf, 0x70 :: rest) := by
  intro labels
  induction labels with
  | nil =>
    intro body rest fuel _ hf h
    cases h
    obtain ⟨f, rfl⟩ : ∃ f, fuel = f + 1 := ⟨fuel - 1, by omega⟩
    exact parseTemplate_stop f rest (by decide)
  | cons l ls ih =>
    intro body rest fuel hne hf h
    have hl := hne l (.head _)
    simp only [templBody, templOne, if_neg (show ¬ l.isEmpty = true by rwa [List.isEmpty_iff]), bind_ok, pure_ok] at h
    obtain ⟨_, ⟨i, hi, rfl⟩, r, hr, rfl⟩ := h
    obtain ⟨f, rfl⟩ : ∃ f, fuel = f + 1 := ⟨fuel - 1, by omega⟩
    simp only [List.cons_append, List.append_assoc]
    rw [parseTemplate_cons (by decide) (parseTAttr_label (d := b8 0x30) rfl rfl rfl hi hl rfl),
      ih r rest f (fun l' h' => hne l' (.tail _ h')) (by simp only [List.length_append, List.length_cons] at hf; omega) hr]
    rfl

end Dlis

namespace Dlis

/-! ### the whole set -/

/-- what the object model guarantees about a set at write time -/
structure SetOk (s : SetDesc) : Prop where
  type_ne : s.type ≠ []
  labels_ne : ∀ l ∈ s.labels, l ≠ []
  labels_nodup : (s.labels.map (fun l => l.map b8)).Nodup
  objs : ∀ o ∈ s.objects, ObjOk s.labels.length o

/-- the reader's view agrees with the description -/
def SetMatches (s : SetDesc) (d : DSet) : Prop :=
  d.type = s.type.map b8 ∧ d.name = (if hasName s then some ((s.name.getD []).map b8) else none) ∧
    d.template = s.labels.map tattrOf ∧ All2 ObjMatches s.objects d.objects

/-- `parseEflr` on a SET component (descriptor, type, and the name if the descriptor announces one) followed by a
template with distinct labels and at least one object -/
theorem parseEflr_set {d : UInt8} {ty : PStr} {tb r1 r2 r3 : Bytes} {nm : Option Bytes} {tmpl : List TAttr}
    {objs : List DObj} (h32 : d.toNat / 32 = 7) (h16 : d.toNat / 16 % 2 = 1) (h8 : d.toNat % 8 = 0)
    (hty : encIdent ty = .ok tb) (hne : ty ≠ [])
    (hnm : (if d.toNat / 8 % 2 = 1 then (decIdent r1).map (fun (n, r) => (some n, r)) else some (none, r1)) =
      some (nm, r2))
    (htm : parseTemplate (r2.length + 1) r2 = some (tmpl, r3)) (hnd : (tmpl.map (·.label)).Nodup)
    (hobjs : parseObjs tmpl r3.length r3 = some objs) (hobjs_ne : objs ≠ []) :
    parseEflr (d :: (tb ++ r1)) = some { type := ty.map b8, name := nm, template := tmpl, objects := objs } := by
  rw [parseEflr]; dsimp only
  rw [if_neg (by omega), decIdent_encIdent hty]; dsimp only
  rw [if_neg (by cases ty <;> simp_all), hnm]; dsimp only
  rw [htm]; dsimp only
  rw [if_neg (by simpa using hnd), hobjs]; dsimp only
  rw [if_neg (by cases objs <;> simp_all)]

/-- C04 core: every non-empty set body the writer model produces is accepted by the strict EFLR reader, with
no bytes left over, and decodes to the set's description -/
theorem parseEflr_setBody (s : SetDesc) (b : Bytes) (hs : SetOk s) (hne : s.objects ≠ [])
    (h : setBody s = .ok b) : ∃ d, parseEflr b = some d ∧ SetMatches s d := by
  unfold setBody at h
  rw [if_neg (by rwa [List.isEmpty_iff])] at h
  simp only [bind_ok, pure_ok] at h
  obtain ⟨sc, hsc, tb, htb, ob, hob, rfl⟩ := h
  -- the objects part starts with an OBJECT component, where the template stops
  obtain ⟨ob', rfl⟩ : ∃ ob', ob = 0x70 :: ob' := by
    rcases objsBody_head s.objects ob hob with ⟨h1, _⟩ | ⟨_, h'⟩
    · exact absurd h1 hne
    · exact h'
  have htmpl := parseTemplate_templBody s.labels tb ob' ((tb ++ 0x70 :: ob').length + 1) hs.labels_ne
    (by rw [List.length_append]; omega) htb
  obtain ⟨ds, hds, hfa⟩ := parseObjs_objsBody (s.labels.map tattrOf)
    (fun t ht => by obtain ⟨l, _, rfl⟩ := List.mem_map.mp ht; exact plainT_tattrOf l) s.objects (0x70 :: ob')
    (0x70 :: ob').length (by simpa using hs.objs) (Nat.le_refl _) hob
  have hnodup : ((s.labels.map tattrOf).map (·.label)).Nodup := by
    rw [List.map_map]; exact hs.labels_nodup
  have hdsne : ds ≠ [] := fun h0 => hne (List.eq_nil_of_length_eq_zero (by rw [All2_length hfa, h0]; rfl))
  refine ⟨{ type := s.type.map b8, name := if hasName s then some ((s.name.getD []).map b8) else none,
            template := s.labels.map tattrOf, objects := ds }, ?_, rfl, rfl, rfl, hfa⟩
  unfold setComp at hsc
  split at hsc
  · simp only [bind_ok, pure_ok] at hsc
    obtain ⟨t, ht, n, hnn, rfl⟩ := hsc
    simp only [List.cons_append, List.append_assoc, if_pos ‹hasName s = true›]
    exact parseEflr_set (d := 0xF8) rfl rfl rfl ht hs.type_ne
      (by rw [if_pos (by decide), decIdent_encIdent hnn]; rfl) htmpl hnodup hds hdsne
  · simp only [bind_ok, pure_ok] at hsc
    obtain ⟨t, ht, rfl⟩ := hsc
    simp only [List.cons_append, List.append_assoc, if_neg ‹¬hasName s = true›]
    exact parseEflr_set (d := 0xF0) rfl rfl rfl ht hs.type_ne rfl htmpl hnodup hds hdsne

end Dlis
