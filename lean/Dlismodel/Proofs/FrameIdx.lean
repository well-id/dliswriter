import Dlismodel.Model.FrameIdx
import Dlismodel.Proofs.Util
namespace Dlis

@[simp] theorem IdxPart.forget_user {α : Type} (v : Option α) : (IdxPart.user v).forget = v := rfl
@[simp] theorem IdxPart.forget_assign {α : Type} (cur v : Option α) : (IdxPart.assign cur v).forget = cur := by
  cases cur with
  | some u => rfl
  | none => cases v <;> rfl

theorem FrameIdx.forget_forget (s : FrameIdx) : s.forget.forget = s.forget := by
  simp [FrameIdx.forget, FrameIdx.user]

/-- the setup sees only what the user assigned -/
theorem frameSetup_fresh (hc indexed : Bool) (xs : List Int) (s : FrameIdx) :
    frameSetup hc indexed xs s = frameSetup hc indexed xs s.forget := by
  unfold frameSetup
  simp [FrameIdx.forget, FrameIdx.user]

/-- and leaves what the user assigned, whether it succeeds or is refused half-way -/
theorem frameSetup_user (hc indexed : Bool) (xs : List Int) (s : FrameIdx) :
    (frameSetup hc indexed xs s).1.forget = s.forget := by
  unfold frameSetup
  simp only
  split
  · simp [FrameIdx.forget, FrameIdx.user]
  · split
    · split <;> simp [FrameIdx.forget, FrameIdx.user]
    · simp [FrameIdx.forget, FrameIdx.user]
    · simp [FrameIdx.forget, FrameIdx.user]

theorem frameHistory_user (h : List (Bool × Bool × List Int)) (s : FrameIdx) : (frameHistory h s).forget = s.forget := by
  induction h generalizing s with
  | nil => rfl
  | cons a rest ih => exact (ih _).trans (frameSetup_user ..)

/-- whatever writes went before — with other rows, refused or not — the index attributes a write derives, and its
outcome, are those of a fresh frame that carries only the user's own assignments -/
theorem frameSetup_after_any_history (h : List (Bool × Bool × List Int)) (hc indexed : Bool) (xs : List Int)
    (s : FrameIdx) :
    frameSetup hc indexed xs (frameHistory h s) = frameSetup hc indexed xs s.forget := by
  rw [frameSetup_fresh, frameHistory_user]

end Dlis
