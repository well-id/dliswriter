import Dlismodel.Model.Iflr
import Dlismodel.Proofs.Prim
namespace Dlis

def SlotOk (s : Slot) : Prop := ∀ e ∈ s.elems, e < 256 ^ s.size

theorem rdElems_slot (size : Nat) (es : List Nat) (rest : Bytes) (h : ∀ e ∈ es, e < 256 ^ size) :
    rdElems size es.length (es.flatMap (beN size) ++ rest) = some (es, rest) := by
  induction es with
  | nil => rfl
  | cons e es ih =>
    rw [List.forall_mem_cons] at h
    simp [rdElems, rdN_beN size e _ h.1, ih h.2]

theorem rdSlots_slots (slots : List Slot) (rest : Bytes) (h : ∀ s ∈ slots, SlotOk s) :
    rdSlots (slots.map fun s => (s.size, s.elems.length)) (slots.flatMap slotBytes ++ rest) =
      some (slots.map (·.elems), rest) := by
  induction slots with
  | nil => rfl
  | cons s ss ih =>
    rw [List.forall_mem_cons] at h
    simp [rdSlots, slotBytes, rdElems_slot s.size s.elems _ h.1, ih h.2]

theorem slotBytes_length (s : Slot) : (slotBytes s).length = s.size * s.elems.length := by
  simp [slotBytes, List.length_flatMap, List.map_const', Nat.mul_comm]

theorem layoutBytes_slots (slots : List Slot) :
    layoutBytes (slots.map fun s => (s.size, s.elems.length)) = (slots.flatMap slotBytes).length := by
  simp [layoutBytes, List.length_flatMap, Function.comp_def, slotBytes_length]

theorem decFrameData_frameDataBody {fr : ObName} {num : Int} {slots : List Slot} {b : Bytes}
    (hs : ∀ s ∈ slots, SlotOk s) (h : frameDataBody fr num slots = .ok b) :
    decFrameData (slots.map fun s => (s.size, s.elems.length)) b =
      some ({ origin := fr.origin.toNat, copy := fr.copy.toNat, name := fr.name.map b8 }, num.toNat,
            slots.map (·.elems)) := by
  simp only [frameDataBody, bind_ok, pure_ok] at h
  obtain ⟨o, ho, n, hn, rfl⟩ := h
  have hr := rdSlots_slots slots [] hs
  rw [List.append_nil] at hr
  simp only [decFrameData, List.append_assoc, decObname_encObname ho, decUvari_encUvari hn, hr]

end Dlis
