/-
  Proofs about the write-time checks and defaults (`Model/Defaults.lean`): nothing the user assigned is replaced.
-/
import Dlismodel.Model.Defaults
import Dlismodel.Proofs.Util
namespace Dlis

theorem dimOfShape_ne_nil (sh : List Nat) : dimOfShape sh ≠ [] := by
  unfold dimOfShape; split
  · simp
  · rename_i h; intro h2; rw [h2] at h; simp at h

/-- without a value nothing is checked; else the dimension is the shape of the values, which a dimension that was
held must agree with -/
theorem checkOrSetDim_ok {dim r : Option (List Nat)} {v : PyVal} (h : checkOrSetDim dim v = .ok r) :
    (v = .none ∧ r = dim) ∨ ∃ sh, shapeV v = some sh ∧ r = some (dimOfShape sh) ∧ (dim = none ∨ dim = r) := by
  unfold checkOrSetDim at h
  split at h
  · cases h; exact .inl ⟨rfl, rfl⟩
  · split at h
    · cases h
    · refine .inr ⟨_, ‹_›, ?_⟩
      cases dim with
      | none => cases h; exact ⟨rfl, .inl rfl⟩
      | some d =>
        simp only [ne_eq, ite_not] at h
        split at h <;> cases h
        exact ⟨by rw [‹dimOfShape _ = d›], .inr rfl⟩

/-- a dimension the user assigned is never replaced; against values it cannot be empty -/
theorem checkOrSetDim_some {x : List Nat} {v : PyVal} {d : Option (List Nat)} (h : checkOrSetDim (some x) v = .ok d) :
    d = some x ∧ (v ≠ .none → x ≠ []) := by
  rcases checkOrSetDim_ok h with ⟨hv, rfl⟩ | ⟨sh, _, rfl, hd | hd⟩
  · exact ⟨rfl, fun h => absurd hv h⟩
  · cases hd
  · cases hd; exact ⟨rfl, fun _ => dimOfShape_ne_nil sh⟩

theorem limitCovers_refl (d : List Nat) : limitCovers d d = true := by
  induction d with
  | nil => rfl
  | cons x xs ih =>
    simp only [limitCovers, List.length_cons, ge_iff_le, Nat.le_refl, decide_true, List.zip_cons_cons, List.all_cons,
      Bool.true_and] at ih ⊢
    exact ih

/-- a PARAMETER / COMPUTATION dimension the user assigned survives the checks unchanged (an empty one too: it is
accepted only without values, and then no [1] is put in its place) -/
theorem paramDefaults_keeps {single : Bool} {values : PyVal} {zc : Option Nat} {d : List Nat}
    {axes : Option (List (Option Nat))} {r : Option (List Nat)}
    (h : paramDefaults single values zc (some d) axes = .ok r) : r = some d := by
  unfold paramDefaults at h
  simp only [bind_ok, pure_ok] at h
  obtain ⟨_, _, _, _, d', hd', rfl⟩ := h
  obtain ⟨rfl, hd⟩ := checkOrSetDim_some hd'
  cases d with
  | cons x xs => simp [truthyDim]
  | nil =>
    cases values with
    | none => rfl
    | _ => exact absurd rfl (hd PyVal.noConfusion)

/-! ### a derived dimension never survives into the next check

A check starts from `forget` of the state (`*_fresh`, by definition) and leaves `forget` of the state as it was
(`*_user`), so `forget` is the same after any history. -/

/-- one attribute's turn at the dimension -/
theorem forget_checkOrSet {t : DimState} {v : PyVal} {d : Option (List Nat)} (h : checkOrSetDim t.held v = .ok d) :
    DimState.forget { held := d, derived := t.derived || (t.held.isNone && d.isSome) } = t.forget := by
  obtain ⟨held, derived⟩ := t
  cases derived with
  | true => rfl
  | false =>
    cases held with
    | none => cases d <;> rfl
    | some x => rw [(checkOrSetDim_some h).1]; rfl

theorem foldDimSt_user (vs : List PyVal) (t : DimState) : (foldDimSt vs t).1.forget = t.forget := by
  induction vs generalizing t with
  | nil => rfl
  | cons v vs ih =>
    unfold foldDimSt
    split
    · rw [ih, forget_checkOrSet ‹_›]
    · rfl

theorem DimCheck.run_user (c : DimCheck) (s : DimState) : (c.run s).1.forget = s.forget := by
  cases c with
  | param single v zc ax =>
    show (paramCheckSt single v zc ax s).1.forget = s.forget
    unfold paramCheckSt
    split
    · rename_i d hp
      cases hf : s.forget with
      | none => cases d <;> rfl
      | some x => rw [hf] at hp; rw [paramDefaults_keeps hp]; rfl
    · rfl
  | calMeas vs ax =>
    show (calMeasCheckSt vs ax s).1.forget = s.forget
    unfold calMeasCheckSt
    split
    · rfl
    · exact foldDimSt_user ..

theorem DimCheck.run_fresh (c : DimCheck) (s : DimState) : c.run s = c.run (DimState.assigned s.forget) := by
  cases c <;> rfl

theorem dimHistory_user (cs : List DimCheck) (s : DimState) : (dimHistory cs s).forget = s.forget := by
  induction cs generalizing s with
  | nil => rfl
  | cons c cs ih => exact (ih _).trans (c.run_user s)

end Dlis
