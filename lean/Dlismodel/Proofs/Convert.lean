/-
  Proofs about the converter layer (`Model/Convert.lean`): what each converter does to one value, how the
  multivalued / multidimensional wrapper distributes it over the values given, what the writer is handed, and the
  exactness of int -> double for magnitudes up to 2^53.
-/
import Dlismodel.Model.Convert
import Dlismodel.Proofs.Util
import Dlismodel.Proofs.Eflr
namespace Dlis

/-- converters that hand back the very value they were given (or refuse it) -/
def Conv.idLike : Conv → Bool
  | .ident | .text | .validateString | .eflr _ | .eflrOrText _ => true
  | _ => false

def Conv.leafOnly : Conv → Bool
  | .ident => false
  | _ => true

/-- the integer a Python number stands for, if it is integral -/
def intOf : PyVal → Option Int
  | .bool b => some (if b then 1 else 0)
  | .int i => some i
  | .float f => f64ToInt f
  | _ => none

variable {c : Conv} {hc : Bool} {rc : Except Err (Option Nat)} {mem : List PStr} {v r : PyVal}

/-! ### what each converter does to one value

One lemma per converter, each by cases on the value.  Where the converter refuses that kind of value outright, `h`
equates an `error` with an `ok` and `cases h` closes the case; where it hands back a fixed value, `cases h`
puts that value for `r`. -/

theorem text_spec (h : applyConv .text hc rc mem v = .ok r) : r = v ∧ ∃ s ec p, v = .str s ec p := by
  cases v <;> cases h
  exact ⟨rfl, _, _, _, rfl⟩

theorem validateString_spec (h : applyConv .validateString hc rc mem v = .ok r) :
    r = v ∧ ∃ s ec p, v = .str s ec p ∧ (hc = true → hcString s = true) := by
  cases v with
  | str s ec p =>
    cases hc with
    | false => cases h; exact ⟨rfl, s, ec, p, rfl, fun h' => nomatch h'⟩
    | true => obtain ⟨hs, h⟩ := ite_error_right.1 h; cases h; exact ⟨rfl, s, ec, p, rfl, fun _ => hs⟩
  | _ => cases h

/-- the branch that `eflr` and `eflrOrText` share: an item is held as given, and is of the type named, if one is -/
theorem obj_spec {cls : Option String} {t : PStr} {o : ObName}
    (h : (match cls with
      | none => Except.ok (PyVal.obj t o)
      | some k => if setTypeStr t = k then .ok (.obj t o) else .error Err.type) = .ok r) :
    r = .obj t o ∧ ∀ k, cls = some k → setTypeStr t = k := by
  cases cls with
  | none => cases h; exact ⟨rfl, fun _ h' => nomatch h'⟩
  | some k => obtain ⟨hk, h⟩ := ite_error_right.1 h; cases h; exact ⟨rfl, fun _ h' => by cases h'; exact hk⟩

theorem eflr_spec {cls : Option String} (h : applyConv (.eflr cls) hc rc mem v = .ok r) :
    r = v ∧ ∃ t o, v = .obj t o ∧ ∀ k, cls = some k → setTypeStr t = k := by
  cases v with
  | obj t o => exact ⟨(obj_spec h).1, t, o, rfl, (obj_spec h).2⟩
  | _ => cases h

theorem eflrOrText_spec {cls : Option String} (h : applyConv (.eflrOrText cls) hc rc mem v = .ok r) :
    r = v ∧ ((∃ s ec p, v = .str s ec p) ∨ ∃ t o, v = .obj t o ∧ ∀ k, cls = some k → setTypeStr t = k) := by
  cases v with
  | obj t o => exact ⟨(obj_spec h).1, .inr ⟨t, o, rfl, (obj_spec h).2⟩⟩
  | str s ec p => cases h; exact ⟨rfl, .inl ⟨_, _, _, rfl⟩⟩
  | _ => cases h

/-- a number is held as given; a string as the number it parses to (a float if it contains a '.', else an
integer), or as given if it does not parse -/
theorem maybeNumeric_spec (h : applyConv .maybeNumeric hc rc mem v = .ok r) :
    (isNumber v = true ∧ r = v) ∨ ∃ s ec p, v = .str s ec p ∧
      r = ((if s.contains 46 then p.asFloat.map .float else p.asInt.map .int).getD v) := by
  cases v with
  | bool _ | int _ | float _ => cases h; exact .inl ⟨rfl, rfl⟩
  | str s ec p =>
    refine .inr ⟨s, ec, p, rfl, ?_⟩
    cases hd : s.contains 46 with
    | true => cases hf : p.asFloat <;> simp only [applyConv, hd, hf] at h <;> cases h <;> rfl
    | false => cases hf : p.asInt <;> simp only [applyConv, hd, hf] at h <;> cases h <;> rfl
  | _ => cases h

/-- the tail that the int, float and str branches of `status` share -/
theorem zeroOne_spec {o : Option Int}
    (h : (match o with
      | some i => if i = 0 ∨ i = 1 then Except.ok (PyVal.int i) else .error Err.value
      | none => .error .value) = .ok r) : ∃ i, r = .int i ∧ (i = 0 ∨ i = 1) ∧ o = some i := by
  cases o with
  | none => cases h
  | some i => obtain ⟨hi, h⟩ := ite_error_right.1 h; cases h; exact ⟨i, rfl, hi, rfl⟩

/-- STATUS attributes hold 0 or 1, and it is the number (or truth value) given -/
theorem status_spec (h : applyConv .status hc rc mem v = .ok r) :
    ∃ i, r = .int i ∧ (i = 0 ∨ i = 1) ∧
      (intOf v = some i ∨ ∃ s ec p, v = .str s ec p ∧ p.asInt = some i) := by
  cases v with
  | bool b => cases h; exact ⟨_, rfl, by cases b <;> simp, .inl rfl⟩
  | int i => obtain ⟨i, hr, hi, hv⟩ := zeroOne_spec (o := some i) h; exact ⟨i, hr, hi, .inl hv⟩
  | float f => obtain ⟨i, hr, hi, hv⟩ := zeroOne_spec h; exact ⟨i, hr, hi, .inl hv⟩
  | str s ec p => obtain ⟨i, hr, hi, hv⟩ := zeroOne_spec h; exact ⟨i, hr, hi, .inr ⟨s, ec, p, rfl, hv⟩⟩
  | _ => cases h

/-- an enumerated attribute holds nothing (where allowed) or a plain string: a member's value, a member value, or —
only a soft converter outside high-compatibility mode — any string -/
theorem enum_spec {cls : String} {soft an : Bool} (h : applyConv (.enum cls soft an) hc rc mem v = .ok r) :
    (r = .none ∧ v = .none ∧ an = true) ∨
    (∃ s ec p, v = .str s ec p ∧ r = .str s (if ec = some cls then none else ec) p ∧
      (ec = some cls ∨ mem.contains s = true ∨ (soft && !hc) = true)) := by
  cases v with
  | none => obtain ⟨ha, h⟩ := ite_error_right.1 h; cases h; exact .inl ⟨rfl, rfl, ha⟩
  | str s ec p =>
    refine .inr ⟨s, ec, p, rfl, ?_⟩
    simp only [applyConv] at h
    split at h
    · cases h; exact ⟨by rw [if_pos ‹_›], .inl ‹_›⟩
    · rw [if_neg ‹_›]
      split at h
      · cases h; exact ⟨rfl, .inr (.inl ‹_›)⟩
      · obtain ⟨hs, h⟩ := ite_error_right.1 h; cases h; exact ⟨rfl, .inr (.inr hs)⟩
  | _ => cases h

/-- a strict enumeration (and every enumeration in high-compatibility mode) holds only member values -/
theorem enum_strict {cls : String} {soft an : Bool} (hs : (soft && !hc) = false)
    (h : applyConv (.enum cls soft an) hc rc mem v = .ok r) :
    (r = .none ∧ v = .none ∧ an = true) ∨
    (∃ s ec p, v = .str s ec p ∧ r = .str s (if ec = some cls then none else ec) p ∧
      (ec = some cls ∨ mem.contains s = true)) :=
  (enum_spec h).imp_right fun ⟨s, ec, p, hv, hr, hm⟩ =>
    ⟨s, ec, p, hv, hr, hm.imp_right (·.resolve_right (by simp [hs]))⟩

/-- `float(v)`: a float is kept bit for bit (NaN payload and signed zero included); an integer becomes the
nearest double -/
theorem toFloat_spec (h : toFloat v = .ok r) :
    ∃ f, r = .float f ∧ (v = .float f ∨ (∃ i, v = .int i ∧ intToF64R i = some f) ∨
      (∃ b, v = .bool b ∧ f = if b then 0x3FF0000000000000 else 0)) := by
  cases v with
  | bool b => cases h; exact ⟨_, rfl, .inr (.inr ⟨b, rfl, rfl⟩)⟩
  | int i =>
    simp only [toFloat] at h
    split at h <;> cases h
    exact ⟨_, rfl, .inr (.inl ⟨i, rfl, ‹_›⟩)⟩
  | float f => cases h; exact ⟨f, rfl, .inl rfl⟩
  | _ => cases h

theorem intParser_spec (h : intParser v = .ok r) : ∃ i, r = .int i ∧ intOf v = some i := by
  cases v with
  | bool b => cases h; exact ⟨_, rfl, rfl⟩
  | int i => simp only [intParser] at h; split at h <;> cases h; exact ⟨i, rfl, rfl⟩
  | float f => simp only [intParser] at h; split at h <;> cases h; exact ⟨_, rfl, ‹_›⟩
  | _ => cases h

theorem numeric_spec {intOnly : Bool} (h : applyConv (.numeric intOnly) hc rc mem v = .ok r) :
    (∃ i, r = .int i ∧ intOf v = some i) ∨
    (∃ f, r = .float f ∧ (v = .float f ∨ (∃ i, v = .int i ∧ intToF64R i = some f) ∨
      (∃ b, v = .bool b ∧ f = if b then 0x3FF0000000000000 else 0))) := by
  simp only [applyConv] at h
  split at h
  · exact .inl (intParser_spec h)
  · split at h
    · cases h
    · split at h
      · exact .inl (intParser_spec h)
      · exact .inr (toFloat_spec (ite_error_right.1 h).2)

/-- an int-only attribute (DIMENSION, ELEMENT-LIMIT, …) or one with an integer representation code holds integers only -/
theorem numeric_int_coded {hc : Bool} {rc : Except Err (Option Nat)} {mem : List PStr} {v r : PyVal} {intOnly : Bool}
    (hi : intOnly = true ∨ ∃ c, rc = .ok (some c) ∧ intCodes.contains c = true)
    (h : applyConv (.numeric intOnly) hc rc mem v = .ok r) : ∃ i, r = .int i ∧ intOf v = some i := by
  simp only [applyConv] at h
  split at h
  · exact intParser_spec h
  · rcases hi with hi | ⟨c, hc1, hc2⟩
    · contradiction
    · subst hc1
      have : usesIntParser false (some c) = true := by simp only [usesIntParser, hc2, Bool.or_true]
      simp only [this, ↓reduceIte] at h
      exact intParser_spec h

/-- a date-time attribute holds a `datetime` — the one given, or the one the string parses to — or, only where
floats are allowed, a float -/
theorem dtime_spec {af : Bool} (h : applyConv (.dtime af) hc rc mem v = .ok r) :
    (∃ t, r = .dtime t ∧ (v = .dtime t ∨ ∃ s ec p, v = .str s ec p ∧ p.asDtime = some t)) ∨
    (af = true ∧ ∃ f, r = .float f) := by
  cases v with
  | dtime t => cases h; exact .inl ⟨t, rfl, .inl rfl⟩
  | bool _ | int _ | float _ =>
    obtain ⟨ha, h⟩ := ite_error_right.1 h
    obtain ⟨f, hf, _⟩ := toFloat_spec h
    exact .inr ⟨ha, f, hf⟩
  | str s ec p =>
    simp only [applyConv] at h
    split at h
    · cases h; exact .inl ⟨_, rfl, .inr ⟨s, ec, p, rfl, ‹_›⟩⟩
    · obtain ⟨ha, h⟩ := ite_error_right.1 h
      split at h <;> cases h
      exact .inr ⟨ha, _, rfl⟩
  | _ => cases h

/-! ### sequences

Only the identity converter is handed a sequence or hands one back. -/

theorem applyConv_idLike (hc' : c.idLike = true) (h : applyConv c hc rc mem v = .ok r) : r = v := by
  cases c <;> cases hc'
  · cases h; rfl
  · exact (text_spec h).1
  · exact (validateString_spec h).1
  · exact (eflr_spec h).1
  · exact (eflrOrText_spec h).1

theorem flattenV_scalar (hv : ∀ l, v ≠ .list l) : flattenV v = [v] := by
  cases v <;> first | rfl | exact absurd rfl (hv _)

/-- a converter hands back the value given or one it has made, and makes no sequences -/
theorem applyConv_fresh (h : applyConv c hc rc mem v = .ok r) : r = v ∨ ∀ l, r ≠ .list l := by
  cases hi : c.idLike with
  | true => exact .inl (applyConv_idLike hi h)
  | false =>
    cases c <;> cases hi
    · rcases maybeNumeric_spec h with ⟨_, h⟩ | ⟨s, _, p, rfl, rfl⟩
      · exact .inl h
      · cases s.contains 46
        · cases p.asInt with | none => exact .inl rfl | some _ => exact .inr nofun
        · cases p.asFloat with | none => exact .inl rfl | some _ => exact .inr nofun
    · obtain ⟨_, rfl, _⟩ := status_spec h; exact .inr nofun
    · rcases enum_spec h with ⟨rfl, _⟩ | ⟨_, _, _, _, rfl, _⟩ <;> exact .inr nofun
    · rcases dtime_spec h with ⟨_, rfl, _⟩ | ⟨_, _, rfl⟩ <;> exact .inr nofun
    · rcases numeric_spec h with ⟨_, rfl, _⟩ | ⟨_, rfl, _⟩ <;> exact .inr nofun
    · cases h

theorem applyConv_list {l : List PyVal} (hl : c.leafOnly = true) : applyConv c hc rc mem (.list l) ≠ .ok r := by
  intro h
  cases c with
  | ident => cases hl
  | numeric _ => rcases numeric_spec h with ⟨_, _, h⟩ | ⟨_, _, h | ⟨_, h, _⟩ | ⟨_, h, _⟩⟩ <;> cases h
  | _ => cases h

/-! ### the wrapper -/

theorem wrapConv_scalar {md : Bool} (hv : ∀ l, v ≠ .list l) :
    wrapConv c hc rc mem md v = applyConv c hc rc mem v := by
  cases v <;> first | rfl | exact absurd rfl (hv _)

/-- Induction over a successful run of the wrapper: a relation between what is given and what is held that holds
wherever the converter is applied, and passes from the elements of a sequence to the sequence, holds throughout. -/
theorem wrap_induct {md : Bool} {P : PyVal → PyVal → Prop}
    (leaf : ∀ v r, applyConv c hc rc mem v = .ok r → P v r)
    (list : ∀ l l', All2 P l l' → P (.list l) (.list l')) :
    (∀ v r, wrapConv c hc rc mem md v = .ok r → P v r) ∧
    (∀ vs rs, wrapConvs c hc rc mem md vs = .ok rs → All2 P vs rs) := by
  apply wrapConv.mutual_induct md (fun v => ∀ r, wrapConv c hc rc mem md v = .ok r → P v r)
    (fun vs => ∀ rs, wrapConvs c hc rc mem md vs = .ok rs → All2 P vs rs)
  · intro l hmd ih r h
    subst hmd
    simp only [wrapConv, ↓reduceIte, emap_ok] at h
    obtain ⟨rs, hrs, rfl⟩ := h
    exact list l rs (ih rs hrs)
  · intro l hmd r h
    simp only [wrapConv, hmd] at h
    exact leaf _ _ h
  · intro v hv r h
    rw [wrapConv_scalar hv] at h
    exact leaf _ _ h
  · intro rs h; cases h; exact .nil
  · intro v vs ih1 ih2 rs h
    simp only [wrapConvs, bind_ok, pure_ok] at h
    obtain ⟨r, hr, rs', hrs, rfl⟩ := h
    exact .cons (ih1 r hr) (ih2 rs' hrs)

/-- the same for the value setter, which takes what is given to a multivalued attribute as a sequence -/
theorem convertValue_induct {a : AttrSpec} {P : PyVal → PyVal → Prop}
    (leaf : ∀ v r, applyConv a.conv hc rc mem v = .ok r → P v r)
    (list : ∀ l l', All2 P l l' → P (.list l) (.list l'))
    (h : convertValue a hc rc mem v = .ok r) : P (if a.multivalued then .list (itemsOf v) else v) r := by
  unfold convertValue at h
  split
  · rw [if_pos ‹_›, emap_ok] at h
    obtain ⟨rs, hrs, rfl⟩ := h
    exact list _ _ ((wrap_induct leaf list).2 _ _ hrs)
  · rw [if_neg ‹_›] at h
    exact (wrap_induct leaf list).1 _ _ h

theorem convertValue_multivalued {a : AttrSpec} {hc : Bool} {rc : Except Err (Option Nat)} {mem : List PStr} {v r : PyVal}
    (hm : a.multivalued = true) (h : convertValue a hc rc mem v = .ok r) : ∃ l, r = .list l := by
  rw [convertValue, if_pos hm, emap_ok] at h
  obtain ⟨rs, _, rfl⟩ := h
  exact ⟨rs, rfl⟩

theorem All2_eq {α : Type} {l l' : List α} (h : All2 (fun x y => y = x) l l') : l' = l := by
  induction h with
  | nil => rfl
  | cons h _ ih => rw [h, ih]

theorem All2_append {α β : Type} {R : α → β → Prop} {a1 a2 : List α} {b1 b2 : List β}
    (h1 : All2 R a1 b1) (h2 : All2 R a2 b2) : All2 R (a1 ++ a2) (b1 ++ b2) := by
  induction h1 with
  | nil => exact h2
  | cons hr _ ih => exact .cons hr ih

theorem All2_flattenL {R : PyVal → PyVal → Prop} {l l' : List PyVal}
    (h : All2 (fun x y => All2 R (flattenV x) (flattenV y)) l l') : All2 R (flattenL l) (flattenL l') := by
  induction h with
  | nil => exact .nil
  | cons h _ ih => exact All2_append h ih

/-- what the user's argument amounts to as a flat sequence of values -/
theorem flattenV_items (v : PyVal) : flattenL (itemsOf v) = flattenV v := by
  cases v <;> first | rfl | exact List.append_nil _

/-! ### `float(int)` is exact up to 2^53 -/

theorem f64_fields (s e m : Nat) (hs : s ≤ 1) (he : e < 2048) (hm : m < 2 ^ 52) :
    f64Exp (s * 2 ^ 63 + e * 2 ^ 52 + m) = e ∧ f64Man (s * 2 ^ 63 + e * 2 ^ 52 + m) = m ∧
      f64Sign (s * 2 ^ 63 + e * 2 ^ 52 + m) = decide (s = 1) := by
  obtain ⟨h1, h2, h3⟩ := f64_bits (s := s) rfl he hm
  unfold f64Exp f64Man f64Sign
  rw [h1, h2, h3, Nat.mod_eq_of_lt (Nat.lt_succ_of_le hs)]
  exact ⟨rfl, rfl, rfl⟩

/-- a normal double whose significand is `a` shifted left: the integer `a` -/
theorem f64ToInt_shifted (s a k : Nat) (hs : s ≤ 1) (hk : k ≤ 52) (h1 : 2 ^ k ≤ a) (h2 : a < 2 ^ (k + 1)) :
    f64ToInt (s * 2 ^ 63 + (k + 1023) * 2 ^ 52 + (a * 2 ^ (52 - k) - 2 ^ 52)) =
      some (if s = 1 then -(a : Int) else (a : Int)) := by
  have hpos : 0 < 2 ^ (52 - k) := Nat.two_pow_pos _
  have ⟨hlo, hhi⟩ := norm_sig hk h1 h2
  obtain ⟨he, hm, hsg⟩ := f64_fields s (k + 1023) (a * 2 ^ (52 - k) - 2 ^ 52) hs (by omega) (by omega)
  unfold f64ToInt
  simp only [he, hm, hsg]
  have hsig : 2 ^ 52 + (a * 2 ^ (52 - k) - 2 ^ 52) = a * 2 ^ (52 - k) := by omega
  rw [hsig, if_neg (by omega), if_neg (by omega)]
  by_cases hk52 : k = 52
  · subst hk52
    simp
  · rw [if_neg (by omega)]
    have e1 : 1075 - (k + 1023) = 52 - k := by omega
    rw [e1, Nat.mul_mod_left, if_pos rfl, Nat.mul_div_cancel _ hpos]
    simp

/-- integers of magnitude up to 2^53 become the double that stands for exactly that integer -/
theorem intToF64R_exact (i : Int) (h : i.natAbs ≤ 2 ^ 53) : ∃ f, intToF64R i = some f ∧ f64ToInt f = some i := by
  by_cases h0 : i = 0
  · subst h0; exact ⟨0, by simp [intToF64R], by decide⟩
  · have ha : i.natAbs ≠ 0 := by omega
    have hlog := (Nat.log2_eq_iff (k := i.natAbs.log2) ha).1 rfl
    have hk53 : i.natAbs.log2 < 54 := (Nat.log2_lt ha).2 (by omega)
    by_cases hk : i.natAbs.log2 ≤ 52
    · unfold intToF64R
      rw [if_neg h0]
      simp only [hk, ↓reduceIte]
      refine ⟨_, rfl, ?_⟩
      have := f64ToInt_shifted (if i < 0 then 1 else 0) i.natAbs i.natAbs.log2 (by split <;> omega) hk hlog.1 hlog.2
      have e : (if i < 0 then 2 ^ 63 else 0) = (if i < 0 then 1 else 0) * 2 ^ 63 := by split <;> simp
      rw [e, this]
      split <;> simp <;> omega
    · have hk' : i.natAbs.log2 = 53 := by omega
      have hval : i.natAbs = 2 ^ 53 := by
        have := hlog.1; rw [hk'] at this; omega
      have hi : i = 2 ^ 53 ∨ i = -(2 ^ 53) := by omega
      rcases hi with hi | hi <;> subst hi
      · exact ⟨0x4340000000000000, by decide +kernel, by decide +kernel⟩
      · exact ⟨0xC340000000000000, by decide +kernel, by decide +kernel⟩

end Dlis
