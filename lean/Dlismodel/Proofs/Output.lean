import Dlismodel.Model.Output
namespace Dlis

/-- state invariant after `n` visible records went through `add` -/
structure OutInv (sul : Bytes) (vrs : List Bytes) (o : Out) (n : Nat) : Prop where
  content : o.writes.flatten ++ o.buf = sul ++ (vrs.take n).flatten
  prefixes : ∀ k, 1 ≤ k → k ≤ o.writes.length → ∃ m, m ≤ n ∧ (o.writes.take k).flatten = sul ++ (vrs.take m).flatten
  total : o.total = o.writes.flatten.length
  nonempty : 1 ≤ o.writes.length

/-- a physical write keeps the invariant: the new on-disk state is the label plus the first `n` records -/
theorem OutInv.flush {sul : Bytes} {vrs : List Bytes} {o : Out} {n : Nat} (h : OutInv sul vrs o n) :
    OutInv sul vrs o.flush n := by
  have hc : (o.writes ++ [o.buf]).flatten = sul ++ (vrs.take n).flatten := by simp [h.content]
  refine ⟨by simp [Out.flush, hc], ?_, by simp [Out.flush, h.total], by simp [Out.flush]⟩
  intro k hk1 hk
  simp only [Out.flush, List.length_append, List.length_singleton] at hk ⊢
  by_cases hle : k ≤ o.writes.length
  · obtain ⟨m, hm, he⟩ := h.prefixes k hk1 hle
    exact ⟨m, hm, by rw [List.take_append_of_le_length hle]; exact he⟩
  · exact ⟨n, Nat.le_refl n, by rw [List.take_of_length_le (by simp; omega), hc]⟩

/-- putting the next record into the buffer -/
theorem OutInv.append {sul : Bytes} {vrs : List Bytes} {o : Out} {n : Nat} (h : OutInv sul vrs o n)
    (hn : n < vrs.length) : OutInv sul vrs { o with buf := o.buf ++ vrs[n] } (n + 1) := by
  refine ⟨?_, fun k hk1 hk => ?_, h.total, h.nonempty⟩
  · simp only
    rw [← List.append_assoc, h.content, List.take_succ_eq_append_getElem hn, List.flatten_append, List.append_assoc]
    simp
  · obtain ⟨m, hm, he⟩ := h.prefixes k hk1 hk
    exact ⟨m, by omega, he⟩

theorem OutInv_add (sul : Bytes) (vrs : List Bytes) (o : Out) (n : Nat) (hn : n < vrs.length)
    (h : OutInv sul vrs o n) : OutInv sul vrs (o.add vrs[n]) (n + 1) := by
  unfold Out.add
  split
  · exact h.flush.append hn
  · exact h.append hn

theorem foldl_add_inv (sul : Bytes) (vrs : List Bytes) :
    ∀ (k n : Nat) (o : Out), n + k = vrs.length → OutInv sul vrs o n →
      OutInv sul vrs ((vrs.drop n).foldl Out.add o) vrs.length := by
  intro k
  induction k with
  | zero => intro n o hn h; rw [List.drop_of_length_le (by omega)]; exact (show n = vrs.length by omega) ▸ h
  | succ k ih =>
    intro n o hn h
    have hlt : n < vrs.length := by omega
    rw [List.drop_eq_getElem_cons hlt, List.foldl_cons]
    exact ih (n + 1) _ (by omega) (OutInv_add sul vrs o n hlt h)

/-- C10 (output side): whatever the buffer size, the file is the label followed by the visible records; the
reported total is its size; after every physical write the file content is the label plus a whole number of
visible records, i.e. a prefix of the final file ending on a visible-record boundary -/
theorem runOutput_spec (cap : Nat) (sul : Bytes) (vrs : List Bytes) :
    let o := runOutput cap sul vrs
    o.writes.flatten = sul ++ vrs.flatten ∧ o.total = (sul ++ vrs.flatten).length ∧
      ∀ k, 1 ≤ k → k ≤ o.writes.length → ∃ m, m ≤ vrs.length ∧ diskAfter o k = sul ++ (vrs.take m).flatten := by
  intro o
  have h0 : OutInv sul vrs { cap := cap, buf := [], writes := [sul], total := sul.length } 0 := by
    refine ⟨by simp, ?_, by simp, by simp⟩
    intro k hk1 hk
    simp at hk
    have : k = 1 := by omega
    subst this
    exact ⟨0, by omega, by simp⟩
  have hf : OutInv sul vrs o vrs.length := (foldl_add_inv sul vrs vrs.length 0 _ (Nat.zero_add _) h0).flush
  have hc : o.writes.flatten = sul ++ vrs.flatten := by
    have := hf.content
    rwa [List.take_length, show o.buf = [] from rfl, List.append_nil] at this
  exact ⟨hc, by rw [← hc]; exact hf.total, hf.prefixes⟩

end Dlis
