namespace Dlis

theorem bind_ok {ε α β : Type} {x : Except ε α} {f : α → Except ε β} {b : β} :
    (x >>= f) = .ok b ↔ ∃ a, x = .ok a ∧ f a = .ok b := by
  cases x <;> simp [bind, Except.bind]

theorem pure_ok {ε α : Type} {a b : α} : (pure a : Except ε α) = .ok b ↔ a = b := by
  simp [pure, Except.pure]

theorem map_ok {ε α β : Type} {x : Except ε α} {f : α → β} {b : β} :
    (f <$> x) = .ok b ↔ ∃ a, x = .ok a ∧ f a = b := by
  cases x <;> simp [Functor.map, Except.map]

theorem obind_some {α β : Type} {x : Option α} {f : α → Option β} {b : β} :
    (x >>= f) = some b ↔ ∃ a, x = some a ∧ f a = some b := by
  cases x <;> simp [bind, Option.bind]

theorem emap_ok {ε α β : Type} {x : Except ε α} {f : α → β} {b : β} :
    Except.map f x = .ok b ↔ ∃ a, x = .ok a ∧ f a = b := by
  cases x <;> simp [Except.map]

/-- two steps in a row succeed iff each does -/
theorem seq_ok {ε : Type} {x y : Except ε Unit} : (x >>= fun _ => y) = .ok () ↔ x = .ok () ∧ y = .ok () := by
  cases x <;> simp [bind, Except.bind]

theorem error_bind {ε α β : Type} (e : ε) (f : α → Except ε β) : (Except.error e >>= f) = .error e := rfl

/-- a step that goes on if `p` and refuses otherwise / refuses if `p` and goes on otherwise -/
theorem ite_error_right {ε α : Type} {p : Prop} [Decidable p] {x : Except ε α} {e : ε} {b : α} :
    (if p then x else .error e) = .ok b ↔ p ∧ x = .ok b := by
  split <;> simp [*]

theorem ite_error_left {ε α : Type} {p : Prop} [Decidable p] {x : Except ε α} {e : ε} {b : α} :
    (if p then .error e else x) = .ok b ↔ ¬p ∧ x = .ok b := by
  split <;> simp [*]

/-- a guarded result: the shape of every range-checked encoder -/
theorem ite_ok {ε α : Type} {c : Prop} [Decidable c] {a b : α} {e : ε} :
    (if c then Except.ok a else Except.error e) = .ok b ↔ c ∧ b = a := by
  split <;> simp [*, eq_comm]

/-- from "succeeds with `b` iff `P` and `b` is this value" to "succeeds iff `P`" -/
theorem exists_ok_iff {ε α : Type} {x : Except ε α} {P : Prop} {a : α} (h : ∀ b, x = .ok b ↔ P ∧ b = a) :
    (∃ b, x = .ok b) ↔ P :=
  ⟨fun ⟨b, hb⟩ => ((h b).mp hb).1, fun hp => ⟨a, (h a).mpr ⟨hp, rfl⟩⟩⟩

/-- what does not succeed refuses: with an `…_ok_iff`, the contrapositive reading "outside the domain → error" -/
theorem error_of_not_ok {ε α : Type} {x : Except ε α} (h : ¬ ∃ b, x = .ok b) : ∃ e, x = .error e := by
  cases x with
  | error e => exact ⟨e, rfl⟩
  | ok b => exact absurd ⟨b, rfl⟩ h

/-! ### bit fields -/

/-- the three fields of a double's bit pattern -/
theorem f64_bits {d s e m : Nat} (hd : d = s * 2 ^ 63 + e * 2 ^ 52 + m) (he : e < 2048) (hm : m < 2 ^ 52) :
    d / 2 ^ 63 = s ∧ d / 2 ^ 52 % 2048 = e ∧ d % 2 ^ 52 = m := by
  omega

/-- the three fields of a single's bit pattern -/
theorem f32_bits {r s e m : Nat} (hr : r = s * 2 ^ 31 + e * 2 ^ 23 + m) (he : e < 256) (hm : m < 2 ^ 23) :
    r / 2 ^ 31 = s ∧ r / 2 ^ 23 % 256 = e ∧ r % 2 ^ 23 = m := by
  omega

/-- a number of `k + 1` bits shifted up to `n + 1` bits: the normalised significand -/
theorem norm_sig {a k n : Nat} (hk : k ≤ n) (h1 : 2 ^ k ≤ a) (h2 : a < 2 ^ (k + 1)) :
    2 ^ n ≤ a * 2 ^ (n - k) ∧ a * 2 ^ (n - k) < 2 ^ (n + 1) := by
  have hp : 2 ^ k * 2 ^ (n - k) = 2 ^ n := by rw [← Nat.pow_add, Nat.add_sub_cancel' hk]
  have hp' : 2 ^ (k + 1) * 2 ^ (n - k) = 2 ^ (n + 1) := by rw [← Nat.pow_add]; congr 1; omega
  exact ⟨hp ▸ Nat.mul_le_mul_right _ h1, hp' ▸ Nat.mul_lt_mul_of_pos_right h2 (Nat.two_pow_pos _)⟩

end Dlis
