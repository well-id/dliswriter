/-
  The state machine of `LogicalFile.add_*` (`Model/Api.lean`).  Every call is the identity or registers one object
  (`step_cases`); the two invariants are kept by registering (`RegInv_register`, `CopyInv_register`) and are blind
  to origin references (`setOrigins_inv`), hence hold in every reachable state (`run_invariants`).  The set records
  of a write are characterised by `mem_setRecords`.
-/
import Dlismodel.Model.Api
namespace Dlis

/-! ### what the operations leave alone -/

@[simp] theorem touchKey_items (w : World) (lf : Nat) (k : Key) : (touchKey w lf k).items = w.items := rfl
@[simp] theorem touchKey_headerOrigin (w : World) (lf : Nat) (k : Key) :
    (touchKey w lf k).headerOrigin = w.headerOrigin := rfl
@[simp] theorem appendItem_items (w : World) (it : Item) : (appendItem w it).items = w.items ++ [it] := rfl

theorem mem_itemsOfKey {w : World} {k : Key} {it : Item} : it ∈ itemsOfKey w k ↔ it ∈ w.items ∧ it.key = k := by
  simp [itemsOfKey]

/-- the copy number given to a later object depends on the registered objects and the registries only -/
theorem copyNumber_congr (w w' : World) (h : w.items = w'.items) (hk : w.keys = w'.keys) (lf kind : Nat)
    (sn : Option PStr) (n : PStr) : copyNumber w lf kind sn n = copyNumber w' lf kind sn n := by
  unfold copyNumber lfKeys touchKey
  rw [h, hk]

/-! ### the shape of a call -/

def Op.rejected : Op → Bool
  | .item _ _ _ _ _ out => out != .ok
  | .origin _ _ _ _ out => out != .ok

def Op.lf : Op → Nat
  | .item lf _ _ _ _ _ => lf
  | .origin lf _ _ _ _ => lf

/-- what an accepted call does before any back-filling: the set of the new object is registered with its logical
file and the object is appended -/
def register (w : World) (it : Item) : World := appendItem (touchKey w it.lf it.key) it

@[simp] theorem register_items (w : World) (it : Item) : (register w it).items = w.items ++ [it] := rfl
@[simp] theorem lfKeys_register (w : World) (it : Item) (lf : Nat) :
    lfKeys (register w it) lf = lfKeys (touchKey w it.lf it.key) lf := rfl
@[simp] theorem register_keys_length (w : World) (it : Item) : (register w it).keys.length = w.keys.length := by
  simp [register, touchKey, appendItem]

/-- every call is the identity, or registers one object — numbered in the state before the call — and possibly
back-fills its logical file; a rejected call is the identity -/
theorem step_cases (w : World) (op : Op) : step w op = w ∨
    ∃ it : Item, op.rejected = false ∧ it.lf = op.lf ∧ it.copy = copyNumber w it.lf it.kind it.setName it.name ∧
      (step w op = register w it ∨ ∃ r, step w op = backfill (register w it) it.lf r) := by
  cases op with
  | item lf kind sn name oref out =>
    cases out <;> simp only [step, addItem, ite_self, true_or]
    split
    · exact .inl rfl
    · exact .inr ⟨⟨lf, kind, normName sn, name, _, _⟩, rfl, rfl, rfl, .inl rfl⟩
  | origin lf sn name oref out =>
    simp only [step, addOrigin]
    split
    · exact .inl rfl
    next r _ =>
      cases out <;> simp only [true_or]
      refine .inr ⟨⟨lf, 0, normName sn, name, some r, copyNumber w lf 0 (normName sn) name⟩, rfl, rfl, rfl, ?_⟩
      split
      · exact .inr ⟨_, rfl⟩
      · exact .inl rfl

/-- C20 (first half, one step): a rejected call changes nothing at all -/
theorem rejected_is_identity (w : World) (op : Op) (h : op.rejected = true) : step w op = w := by
  rcases step_cases w op with h' | ⟨_, h', _⟩
  · exact h'
  · rw [h] at h'; cases h'

/-! ### registries -/

theorem insertKey_split (ks : List Key) (k : Key) (h : k ∉ ks) :
    ∃ a b, ks = a ++ b ∧ insertKey ks k = a ++ [k] ++ b := by
  unfold insertKey
  rw [if_neg h]
  split
  · exact ⟨ks, [], by simp, by simp⟩
  · refine ⟨_, _, ?_, rfl⟩
    have := (List.dropWhile_suffix (l := ks.reverse) fun x => decide (x.1 ≠ k.1)).reverse
    rw [List.reverse_reverse, List.prefix_iff_eq_append, List.length_reverse] at this
    exact this.symm

theorem insertKey_perm (ks : List Key) (k : Key) (h : k ∉ ks) : (insertKey ks k).Perm (k :: ks) := by
  obtain ⟨a, b, rfl, h2⟩ := insertKey_split ks k h
  rw [h2, List.append_assoc]
  exact List.perm_middle

theorem mem_insertKey (ks : List Key) (k x : Key) : x ∈ insertKey ks k ↔ x = k ∨ x ∈ ks := by
  by_cases h : k ∈ ks
  · simp only [insertKey, h, ↓reduceIte]
    exact ⟨.inr, fun h' => h'.elim (· ▸ h) id⟩
  · rw [(insertKey_perm ks k h).mem_iff, List.mem_cons]

theorem nodup_insertKey (ks : List Key) (k : Key) (h : ks.Nodup) : (insertKey ks k).Nodup := by
  by_cases hk : k ∈ ks
  · simpa only [insertKey, hk, ↓reduceIte] using h
  · exact (insertKey_perm ks k hk).nodup_iff.mpr (List.nodup_cons.mpr ⟨hk, h⟩)

theorem lfKeys_touch (w : World) (lf lf' : Nat) (k : Key) :
    lfKeys (touchKey w lf' k) lf =
      if lf' = lf ∧ lf < w.keys.length then insertKey (lfKeys w lf) k else lfKeys w lf := by
  simp only [lfKeys, touchKey, List.getD_eq_getElem?_getD, List.getElem?_modify]
  by_cases h : lf < w.keys.length
  · by_cases e : lf' = lf <;> simp [h, e]
  · simp [h]

/-- registering a set only adds to what a logical file sees -/
theorem lfKeys_touch_mono (w : World) (lf lf' : Nat) (k x : Key) (h : x ∈ lfKeys w lf) :
    x ∈ lfKeys (touchKey w lf' k) lf := by
  rw [lfKeys_touch]
  split
  · exact (mem_insertKey _ _ _).mpr (.inr h)
  · exact h

theorem lfKeys_mem_lt (w : World) (lf : Nat) (k : Key) (h : k ∈ lfKeys w lf) : lf < w.keys.length := by
  apply Nat.lt_of_not_le
  intro hl
  simp [lfKeys, List.getD_eq_getElem?_getD, List.getElem?_eq_none hl] at h

/-! ### the invariants -/

/-- every logical file's registry holds each (type, name) once, and every object's set is registered in the
logical file through which it was added -/
structure RegInv (w : World) : Prop where
  nodup : ∀ lf, (lfKeys w lf).Nodup
  itemKey : ∀ it ∈ w.items, it.key ∈ lfKeys w it.lf
  lens : w.headerOrigin.length = w.keys.length

/-- (bound) an object's copy number is at most the number of earlier objects of its type and name that its logical
file has registered by now; (mono) the objects of one type and name added through one logical file have increasing
copy numbers -/
structure CopyInv (w : World) : Prop where
  bound : ∀ i (h : i < w.items.length),
    w.items[i].copy ≤ (w.items.take i).countP (fun x => decide (x.kind = w.items[i].kind) &&
      decide (x.key ∈ lfKeys w w.items[i].lf) && decide (x.name = w.items[i].name))
  mono : ∀ i j (hi : i < w.items.length) (hj : j < w.items.length), i < j → w.items[i].lf = w.items[j].lf →
    w.items[i].kind = w.items[j].kind → w.items[i].name = w.items[j].name → w.items[i].copy < w.items[j].copy

/-- C07: same-named objects of one type added through one logical file get distinct copy numbers — whatever sets of
that type they are in -/
theorem copy_unique (w : World) (h : CopyInv w) (i j : Nat) (hi : i < w.items.length) (hj : j < w.items.length)
    (hij : i ≠ j) (hl : w.items[i].lf = w.items[j].lf) (hk : w.items[i].kind = w.items[j].kind)
    (hn : w.items[i].name = w.items[j].name) : w.items[i].copy ≠ w.items[j].copy := by
  rcases Nat.lt_or_gt_of_ne hij with hlt | hgt
  · exact Nat.ne_of_lt (h.mono i j hi hj hlt hl hk hn)
  · exact (Nat.ne_of_lt (h.mono j i hj hi hgt hl.symm hk.symm hn.symm)).symm

theorem RegInv_init (n : Nat) : RegInv (World.init n) := by
  refine ⟨fun lf => ?_, fun it hit => (nomatch hit), by simp [World.init]⟩
  by_cases h : lf < n <;> simp [lfKeys, World.init, List.getD_eq_getElem?_getD, h]

theorem CopyInv_init (n : Nat) : CopyInv (World.init n) :=
  ⟨fun _ h => (nomatch h), fun _ _ hi => (nomatch hi)⟩

/-- the objects that count towards the copy number of a new object `y`: those of its type and name in a set its
logical file has registered (the predicate of `CopyInv.bound`) -/
def counted (w : World) (y x : Item) : Bool :=
  decide (x.kind = y.kind) && decide (x.key ∈ lfKeys w y.lf) && decide (x.name = y.name)

theorem counted_iff {w : World} {y x : Item} :
    counted w y x = true ↔ x.kind = y.kind ∧ x.key ∈ lfKeys w y.lf ∧ x.name = y.name := by
  simp [counted, and_assoc]

theorem counted_touch {w : World} {y x : Item} (lf : Nat) (k : Key) (h : counted w y x = true) :
    counted (touchKey w lf k) y x = true := by
  rw [counted_iff] at h ⊢
  exact ⟨h.1, lfKeys_touch_mono w _ lf k _ h.2.1, h.2.2⟩

theorem copyNumber_eq (w : World) (y : Item) :
    copyNumber w y.lf y.kind y.setName y.name = w.items.countP (counted (touchKey w y.lf y.key) y) := by
  unfold copyNumber
  rw [List.countP_filter]
  congr 1
  funext x
  exact Bool.and_comm _ _

theorem countP_take_lt {α : Type} (l : List α) (p : α → Bool) (i : Nat) (hi : i < l.length) (hp : p l[i] = true) :
    (l.take i).countP p < l.countP p := by
  conv => rhs; rw [← List.take_append_drop i l, List.drop_eq_getElem_cons hi, List.countP_append,
    List.countP_cons_of_pos hp]
  omega

theorem RegInv_register (w : World) (it : Item) (hlf : it.lf < w.keys.length) (hr : RegInv w) :
    RegInv (register w it) := by
  refine ⟨fun lf => ?_, fun x hx => ?_, by simpa [register, touchKey, appendItem] using hr.lens⟩
  · rw [lfKeys_register, lfKeys_touch]
    split
    · exact nodup_insertKey _ _ (hr.nodup lf)
    · exact hr.nodup lf
  · rw [lfKeys_register]
    rcases List.mem_append.mp hx with hx | hx
    · exact lfKeys_touch_mono w _ _ _ _ (hr.itemKey x hx)
    · rw [List.mem_singleton.mp hx, lfKeys_touch, if_pos ⟨rfl, hlf⟩]
      exact (mem_insertKey _ _ _).mpr (.inl rfl)

/-- a new object numbered by `copyNumber` keeps the copy numbers right -/
theorem CopyInv_register (w : World) (it : Item) (hc : it.copy = copyNumber w it.lf it.kind it.setName it.name)
    (hr : RegInv w) (h : CopyInv w) : CopyInv (register w it) := by
  refine ⟨fun i hi => ?_, ?_⟩
  · simp only [register_items, lfKeys_register] at hi ⊢
    rcases Nat.lt_succ_iff_lt_or_eq.mp (by simpa using hi) with hlt | rfl
    · -- an earlier object: what counted for it before still counts
      simp only [List.getElem_append_left hlt, List.take_append_of_le_length (Nat.le_of_lt hlt)]
      exact Nat.le_trans (h.bound i hlt) (List.countP_mono_left fun x _ => counted_touch _ _)
    · simp only [List.getElem_concat_length, List.take_left', hc, copyNumber_eq]
      exact Nat.le_refl _
  · refine (List.pairwise_iff_getElem (R := fun a b : Item => a.lf = b.lf → a.kind = b.kind → a.name = b.name →
      a.copy < b.copy)).mp ?_
    show List.Pairwise _ (w.items ++ [it])
    refine List.pairwise_append.mpr
      ⟨List.pairwise_iff_getElem.mpr h.mono, List.pairwise_singleton _ _, fun x hx y hy hl hk hn => ?_⟩
    obtain rfl := List.mem_singleton.mp hy
    obtain ⟨i, hi, rfl⟩ := List.getElem_of_mem hx
    -- the earlier object is itself among those counted for the new one, after all that counted for it
    have hp : counted (touchKey w y.lf y.key) y w.items[i] = true :=
      counted_iff.mpr ⟨hk, hl ▸ lfKeys_touch_mono w _ _ _ _ (hr.itemKey _ hx), hn⟩
    rw [hc, copyNumber_eq]
    refine Nat.lt_of_le_of_lt (Nat.le_trans (h.bound i hi) (List.countP_mono_left fun x _ hx => ?_))
      (countP_take_lt _ _ i hi hp)
    have hx := (counted_iff (w := w) (y := w.items[i])).mp hx
    exact counted_iff.mpr ⟨hx.1.trans hk, hl ▸ lfKeys_touch_mono w _ _ _ _ hx.2.1, hx.2.2.trans hn⟩

/-- neither invariant looks at origin references -/
theorem setOrigins_inv (w : World) (g : Item → Option Int) (ho : List (Option Int))
    (hlen : ho.length = w.headerOrigin.length) (hr : RegInv w) (h : CopyInv w) :
    let w' : World := { w with items := w.items.map fun x => { x with origin := g x }, headerOrigin := ho }
    RegInv w' ∧ CopyInv w' := by
  refine ⟨⟨hr.nodup, fun x hx => ?_, hlen.trans hr.lens⟩, ⟨fun i hi => ?_, fun i j hi hj => ?_⟩⟩
  · obtain ⟨y, hy, rfl⟩ := List.mem_map.mp hx
    exact hr.itemKey y hy
  · simp only [List.getElem_map, ← List.map_take, List.countP_map]
    exact h.bound i (by simpa using hi)
  · simp only [List.getElem_map]
    exact h.mono i j (by simpa using hi) (by simpa using hj)

theorem backfill_inv (w : World) (lf : Nat) (r : Int) (hr : RegInv w) (h : CopyInv w) :
    RegInv (backfill w lf r) ∧ CopyInv (backfill w lf r) := by
  have : backfill w lf r = { w with
      items := w.items.map fun x =>
        { x with origin := if x.origin.isNone ∧ x.key ∈ lfKeys w lf then some r else x.origin },
      headerOrigin := w.headerOrigin.set lf (some r) } := by
    unfold backfill
    congr
    funext x
    split <;> rfl
  rw [this]
  exact setOrigins_inv w _ _ List.length_set hr h

theorem step_inv (w : World) (op : Op) (hlf : op.lf < w.keys.length) (hr : RegInv w) (h : CopyInv w) :
    (step w op).keys.length = w.keys.length ∧ RegInv (step w op) ∧ CopyInv (step w op) := by
  rcases step_cases w op with e | ⟨it, _, hl, hc, e | ⟨r, e⟩⟩ <;> rw [e]
  · exact ⟨rfl, hr, h⟩
  · exact ⟨register_keys_length w it, RegInv_register w it (hl ▸ hlf) hr, CopyInv_register w it hc hr h⟩
  · exact ⟨register_keys_length w it,
      backfill_inv _ _ _ (RegInv_register w it (hl ▸ hlf) hr) (CopyInv_register w it hc hr h)⟩

/-- from any consistent state, not only the empty one -/
theorem run_inv (w : World) (ops : List Op) (hv : ∀ op ∈ ops, op.lf < w.keys.length) (hr : RegInv w)
    (hc : CopyInv w) : (run w ops).keys.length = w.keys.length ∧ RegInv (run w ops) ∧ CopyInv (run w ops) :=
  List.foldlRecOn ops step (motive := fun w' => w'.keys.length = w.keys.length ∧ RegInv w' ∧ CopyInv w')
    ⟨rfl, hr, hc⟩ fun w' ⟨hn, hr', hc'⟩ op hop =>
      have := step_inv w' op (hn ▸ hv op hop) hr' hc'
      ⟨this.1.trans hn, this.2⟩

/-- all histories of valid calls keep the registries consistent and the copy numbers right -/
theorem run_invariants (n : Nat) (ops : List Op) (hv : ∀ op ∈ ops, op.lf < n) :
    RegInv (run (World.init n) ops) ∧ CopyInv (run (World.init n) ops) :=
  (run_inv (World.init n) ops (by simpa [World.init] using hv) (RegInv_init n) (CopyInv_init n)).2

/-! ### what a write emits -/

/-- no non-empty set is registered by two logical files -/
def NoShared (w : World) : Prop :=
  ∀ a b k, a ≠ b → k ∈ lfKeys w a → k ∈ lfKeys w b → itemsOfKey w k = []

theorem noShared_of_sharedSet (w : World) (h : sharedSet w = false) : NoShared w := by
  have key : ∀ a b k, a < b → k ∈ lfKeys w a → k ∈ lfKeys w b → itemsOfKey w k = [] := by
    intro a b k hab ka kb
    have hb := lfKeys_mem_lt w b k kb
    simp only [sharedSet, List.any_eq_false, List.mem_range, Bool.and_eq_true, decide_eq_true_eq,
      List.any_eq_true, not_and, not_exists] at h
    simpa [kb] using h a (Nat.lt_trans hab hb) b hb hab k ka
  intro a b k hne ka kb
  rcases Nat.lt_or_gt_of_ne hne with hlt | hgt
  · exact key a b k hlt ka kb
  · exact key b a k hgt kb ka

theorem writable_noShared (w : World) (h : writable w = true) : NoShared w := by
  simp only [writable, Bool.and_eq_true, Bool.not_eq_eq_eq_not, Bool.not_true] at h
  exact noShared_of_sharedSet w h.2

/-- under the registry invariant and without shared non-empty sets, an object is in a set registered by a logical
file exactly if it was added through that logical file -/
theorem key_mem_lfKeys_iff (w : World) (hr : RegInv w) (hns : NoShared w) (it : Item) (hit : it ∈ w.items)
    (lf : Nat) : it.key ∈ lfKeys w lf ↔ it.lf = lf := by
  refine ⟨fun hk => Decidable.byContradiction fun hne => ?_, fun e => e ▸ hr.itemKey it hit⟩
  exact List.ne_nil_of_mem (mem_itemsOfKey.mpr ⟨hit, rfl⟩) (hns _ _ _ hne (hr.itemKey it hit) hk)

theorem mem_setRecords (w : World) (lf : Nat) (k : Key) (its : List Item) :
    (k, its) ∈ setRecords w lf ↔ k ∈ lfKeys w lf ∧ its = itemsOfKey w k ∧ its ≠ [] := by
  simp only [setRecords, List.mem_filterMap, List.mem_append, List.mem_filter, decide_eq_true_eq,
    Option.ite_none_left_eq_some, Option.some.injEq, Prod.mk.injEq]
  constructor
  · rintro ⟨k', hk', hne, rfl, rfl⟩
    exact ⟨hk'.elim And.left And.left, rfl, by simpa using hne⟩
  · rintro ⟨hk, rfl, hne⟩
    exact ⟨k, (Decidable.em (k.1 = 0)).imp (⟨hk, ·⟩) (⟨hk, ·⟩), by simpa using hne, rfl, rfl⟩

/-- C18: in a writable state every set record of a logical file holds only objects added through that
logical file -/
theorem records_isolated (w : World) (hr : RegInv w) (hw : writable w = true) (lf : Nat) (k : Key)
    (its : List Item) (h : (k, its) ∈ setRecords w lf) : ∀ it ∈ its, it.lf = lf := by
  obtain ⟨hk, rfl, _⟩ := (mem_setRecords w lf k its).mp h
  intro it hit
  obtain ⟨hmem, rfl⟩ := mem_itemsOfKey.mp hit
  exact (key_mem_lfKeys_iff w hr (writable_noShared w hw) it hmem lf).mp hk

/-- C18, the other direction: every object added through a logical file is emitted in that logical file -/
theorem records_complete (w : World) (hr : RegInv w) (it : Item) (hit : it ∈ w.items) :
    ∃ its, (it.key, its) ∈ setRecords w it.lf ∧ it ∈ its :=
  have hin := mem_itemsOfKey.mpr ⟨hit, rfl⟩
  ⟨_, (mem_setRecords w it.lf it.key _).mpr ⟨hr.itemKey it hit, rfl, List.ne_nil_of_mem hin⟩, hin⟩

/-- the keys of the records are the registered keys with a non-empty set, ORIGIN sets first -/
theorem setRecords_keys (w : World) (lf : Nat) :
    (setRecords w lf).map (·.1) =
      ((lfKeys w lf).filter (fun k => k.1 = 0) ++ (lfKeys w lf).filter (fun k => k.1 ≠ 0)).filter
        fun k => !(itemsOfKey w k).isEmpty := by
  rw [setRecords, List.map_filterMap]
  conv => rhs; rw [← List.filterMap_eq_filter]
  congr
  funext k
  by_cases h : (itemsOfKey w k).isEmpty <;> simp [h, Option.guard]

/-- C09: ORIGIN sets come first, then all other sets; each (type, name) at most once; no empty set -/
theorem setRecords_shape (w : World) (hr : RegInv w) (lf : Nat) :
    ∃ o r, setRecords w lf = o ++ r ∧ (∀ p ∈ o, p.1.1 = 0) ∧ (∀ p ∈ r, p.1.1 ≠ 0) ∧
      ((setRecords w lf).map (·.1)).Nodup ∧ ∀ p ∈ setRecords w lf, p.2 ≠ [] ∧ ∀ it ∈ p.2, it.key = p.1 := by
  have hq : ∀ (q : Key → Bool) (p : Key × List Item), p ∈ ((lfKeys w lf).filter q).filterMap (fun k =>
      let its := itemsOfKey w k
      if its.isEmpty then none else some (k, its)) → q p.1 = true := by
    intro q p hp
    simp only [List.mem_filterMap, List.mem_filter, Option.ite_none_left_eq_some, Option.some.injEq] at hp
    obtain ⟨k, ⟨_, hk⟩, _, rfl⟩ := hp
    exact hk
  refine ⟨_, _, List.filterMap_append, fun p hp => by simpa using hq _ p hp,
    fun p hp => by simpa using hq _ p hp, ?_, fun p hp => ?_⟩
  · rw [setRecords_keys]
    have hn := hr.nodup lf
    refine List.Pairwise.filter _ (List.nodup_append.mpr ⟨hn.filter _, hn.filter _, fun a ha b hb hab => ?_⟩)
    simp only [List.mem_filter, decide_eq_true_eq] at ha hb
    exact hb.2 (hab ▸ ha.2)
  · obtain ⟨_, h2, h3⟩ := (mem_setRecords w lf p.1 p.2).mp hp
    exact ⟨h3, fun it hit => (mem_itemsOfKey.mp (h2 ▸ hit)).2⟩

theorem filterMap_filter_insert {α β : Type} (g : α → Option β) (p : α → Bool) (a b : List α) (k : α)
    (hk : g k = none) : ((a ++ [k] ++ b).filter p).filterMap g = ((a ++ b).filter p).filterMap g := by
  simp only [List.filter_append, List.filterMap_append, List.filter_cons, List.filter_nil]
  split <;> simp [hk]

/-- C20: a set created by a rejected call has no objects, so the records written right afterwards are
exactly those of the state before the call -/
theorem setRecords_touch_empty (w : World) (lf lf' : Nat) (k : Key) (hlf : lf' < w.keys.length)
    (hempty : k ∉ lfKeys w lf' → itemsOfKey w k = []) :
    setRecords (touchKey w lf' k) lf = setRecords w lf := by
  simp only [setRecords, lfKeys_touch]
  by_cases e : lf' = lf
  · subst e
    rw [if_pos ⟨rfl, hlf⟩]
    by_cases hk : k ∈ lfKeys w lf'
    · rw [insertKey, if_pos hk]
      rfl
    · obtain ⟨a, b, h1, h2⟩ := insertKey_split _ k hk
      have he : itemsOfKey (touchKey w lf' k) k = [] := hempty hk
      -- the new key yields no record, wherever it stands
      rw [h2, h1, List.filterMap_append, List.filterMap_append, filterMap_filter_insert _ _ a b k (by simp [he]),
        filterMap_filter_insert _ _ a b k (by simp [he])]
      rfl
  · rw [if_neg (e ·.1)]
    rfl

end Dlis
