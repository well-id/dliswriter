/-
  Lemmas about the write-time object checks (`Model/Checks.lean`): a write is accepted exactly if every check of
  every logical file passes and the state is writable (`acceptWriteHc_iff`, `acceptWrite_iff`), and each check says
  what its name says (`checkCompleteness_iff`, `checkFrameChannels_iff`, `checkChannelCounts_iff`,
  `checkReferences_iff`).
-/
import Dlismodel.Model.Checks
import Dlismodel.Proofs.Api
import Dlismodel.Proofs.Util
import Dlismodel.Standard
namespace Dlis

/-- one check of `check_objects`, by the name of the method -/
def checkByName (w : World) (lf c f : Nat) (es : List Edge) (fid : Nat → Bool) : String → Except CheckErr Unit
  | "_check_completeness" => checkCompleteness w lf c f
  | "_check_channels_assigned_to_frames" => checkFrameChannels w lf c f es
  | "_check_defining_origin_params" => if fid lf then .ok () else .error .fileIdMismatch
  | "_check_references" => checkReferences w lf es
  | _ => .error .noOrigin

/-- a list of named checks, made one after the other; the first refusal ends it -/
def runChecks (g : String → Except CheckErr Unit) : List String → Except CheckErr Unit
  | [] => .ok ()
  | n :: ns => match g n with
    | .ok _ => runChecks g ns
    | .error e => .error e

theorem runChecks_cons (g : String → Except CheckErr Unit) (n : String) (ns : List String) :
    runChecks g (n :: ns) = (g n >>= fun _ => runChecks g ns) := by
  rw [runChecks]
  cases g n <;> rfl

/-- the model makes the checks of one logical file in the pinned order (which `checkOrder_eq` ties to the order of the
calls in the live `LogicalFile.check_objects`) -/
theorem checkObjects_follows_order (w : World) (lf c f : Nat) (es : List Edge) (fid : Nat → Bool) :
    checkObjects w lf c f es fid = runChecks (checkByName w lf c f es fid) Standard.checkOrder := by
  simp only [Standard.checkOrder, runChecks_cons, checkByName, checkObjects]
  -- what is left: the branch on the file id, and `x >>= fun _ => .ok ()` is `x`
  cases fid lf <;> cases checkReferences w lf es <;> rfl

/-! ### accepted = every check passes -/

theorem checkObjectsHc_iff (hc : Bool) (w : World) (lf c f : Nat) (es : List Edge) (fid : Nat → Bool) :
    checkObjectsHc hc w lf c f es fid = .ok () ↔ checkCompleteness w lf c f = .ok () ∧
      checkFrameChannels w lf c f es = .ok () ∧ checkChannelCounts hc w lf c f es = .ok () ∧ fid lf = true ∧
      checkReferences w lf es = .ok () := by
  simp only [checkObjectsHc, seq_ok, error_bind, ite_error_right]

theorem checkAllHc_iff (hc : Bool) (w : World) (c f : Nat) (es : List Edge) (fid : Nat → Bool) (l : List Nat) :
    checkAllHc hc w c f es fid l = .ok () ↔ ∀ lf ∈ l, checkObjectsHc hc w lf c f es fid = .ok () := by
  induction l with
  | nil => simp [checkAllHc]
  | cons a rest ih => simp only [checkAllHc, seq_ok, ih, List.forall_mem_cons]

theorem acceptWriteHc_iff (hc : Bool) (w : World) (c f : Nat) (es : List Edge) (fid : Nat → Bool) :
    acceptWriteHc hc w c f es fid = .ok () ↔
      (∀ lf, lf < w.keys.length → checkObjectsHc hc w lf c f es fid = .ok ()) ∧ writable w = true := by
  simp only [acceptWriteHc, writable, seq_ok, error_bind, ite_error_right, ite_error_left, checkAllHc_iff,
    List.mem_range, Bool.and_eq_true, Bool.not_eq_true', Bool.not_eq_true, pure, Except.pure, and_true]

/-! ### outside high-compatibility mode -/

theorem checkChannelCounts_off (w : World) (lf c f : Nat) (es : List Edge) :
    checkChannelCounts false w lf c f es = .ok () := rfl

theorem checkObjectsHc_false (w : World) (lf c f : Nat) (es : List Edge) (fid : Nat → Bool) :
    checkObjectsHc false w lf c f es fid = checkObjects w lf c f es fid := by
  simp only [checkObjectsHc, checkObjects, checkChannelCounts_off, bind, Except.bind]

theorem checkAllHc_false (w : World) (c f : Nat) (es : List Edge) (fid : Nat → Bool) (l : List Nat) :
    checkAllHc false w c f es fid l = checkAll w c f es fid l := by
  induction l with
  | nil => rfl
  | cons a rest ih => simp only [checkAllHc, checkAll, checkObjectsHc_false, ih]

theorem acceptWriteHc_false (w : World) (c f : Nat) (es : List Edge) (fid : Nat → Bool) :
    acceptWriteHc false w c f es fid = acceptWrite w c f es fid := by
  simp only [acceptWriteHc, acceptWrite, checkAllHc_false]

theorem checkObjects_iff (w : World) (lf c f : Nat) (es : List Edge) (fid : Nat → Bool) :
    checkObjects w lf c f es fid = .ok () ↔ checkCompleteness w lf c f = .ok () ∧
      checkFrameChannels w lf c f es = .ok () ∧ fid lf = true ∧ checkReferences w lf es = .ok () := by
  simp only [← checkObjectsHc_false, checkObjectsHc_iff, checkChannelCounts_off, true_and]

theorem acceptWrite_iff (w : World) (c f : Nat) (es : List Edge) (fid : Nat → Bool) :
    acceptWrite w c f es fid = .ok () ↔
      (∀ lf, lf < w.keys.length → checkObjects w lf c f es fid = .ok ()) ∧ writable w = true := by
  simp only [← acceptWriteHc_false, acceptWriteHc_iff, checkObjectsHc_false]

theorem checkObjects_of (w : World) (lf c f : Nat) (es : List Edge) (fid : Nat → Bool)
    (h1 : checkCompleteness w lf c f = .ok ()) (h2 : checkFrameChannels w lf c f es = .ok ()) (h3 : fid lf = true)
    (h4 : checkReferences w lf es = .ok ()) : checkObjects w lf c f es fid = .ok () :=
  (checkObjects_iff w lf c f es fid).mpr ⟨h1, h2, h3, h4⟩

theorem acceptWrite_of (w : World) (c f : Nat) (es : List Edge) (fid : Nat → Bool)
    (h1 : ∀ lf, lf < w.keys.length → checkObjects w lf c f es fid = .ok ()) (h2 : writable w = true) :
    acceptWrite w c f es fid = .ok () :=
  (acceptWrite_iff w c f es fid).mpr ⟨h1, h2⟩

/-! ### what each check says -/

theorem inLf_iff (w : World) (lf i : Nat) :
    inLf w lf i = true ↔ ∃ h : i < w.items.length, w.items[i].key ∈ lfKeys w lf := by
  unfold inLf
  by_cases h : i < w.items.length <;> simp [h]

theorem kindAt_iff (w : World) (i k : Nat) :
    w.items[i]?.map (·.kind) = some k ↔ ∃ h : i < w.items.length, w.items[i].kind = k := by
  by_cases h : i < w.items.length <;> simp [h]

/-- under the registry invariant and without shared non-empty sets, an object is in a set registered by a logical
file exactly if it was added through that logical file -/
theorem inLf_iff_lf (w : World) (hr : RegInv w) (hns : NoShared w) (lf i : Nat) (hi : i < w.items.length) :
    inLf w lf i = true ↔ w.items[i].lf = lf := by
  rw [inLf_iff, ← key_mem_lfKeys_iff w hr hns _ (List.getElem_mem hi)]
  exact ⟨fun ⟨_, h⟩ => h, fun h => ⟨hi, h⟩⟩

theorem not_or_eq_true {a b : Bool} : (!a || b) = true ↔ (a = true → b = true) := by
  cases a <;> simp

theorem checkCompleteness_iff (w : World) (lf c f : Nat) :
    checkCompleteness w lf c f = .ok () ↔ (originsOfLf w lf).isEmpty = false ∧
      (itemsOfKind w lf c).isEmpty = false ∧ (itemsOfKind w lf f).isEmpty = false := by
  simp only [checkCompleteness, ite_error_left, Bool.not_eq_true, and_true]

theorem checkFrameChannels_iff (w : World) (lf c f : Nat) (es : List Edge) :
    checkFrameChannels w lf c f es = .ok () ↔ ∀ e ∈ es, e.viaChannels = true → inLf w lf e.holder = true →
      w.items[e.holder]?.map (·.kind) = some f →
      inLf w lf e.target = true ∧ w.items[e.target]?.map (·.kind) = some c := by
  simp only [checkFrameChannels, ite_error_right, List.all_eq_true, not_or_eq_true, Bool.and_eq_true,
    decide_eq_true_eq, and_imp, and_true]

theorem checkChannelCounts_iff (hc : Bool) (w : World) (lf c f : Nat) (es : List Edge) :
    checkChannelCounts hc w lf c f es = .ok () ↔ hc = true → ∀ i, i < w.items.length → inLf w lf i = true →
      w.items[i]?.map (·.kind) = some c → channelUses w lf f es i = 1 := by
  simp only [checkChannelCounts, ite_error_right, List.all_eq_true, not_or_eq_true, Bool.and_eq_true,
    decide_eq_true_eq, and_imp, List.mem_range, beq_iff_eq, and_true]

theorem checkReferences_iff (w : World) (lf : Nat) (es : List Edge) :
    checkReferences w lf es = .ok () ↔ ∀ e ∈ es, inLf w lf e.holder = true → inLf w lf e.target = true := by
  simp only [checkReferences, ite_error_right, List.all_eq_true, not_or_eq_true, and_true]

/-! ### what an accepted write says -/

theorem accepted_checks {w : World} {c f : Nat} {es : List Edge} {fid : Nat → Bool}
    (hacc : acceptWrite w c f es fid = .ok ()) {lf : Nat} (hlf : lf < w.keys.length) :
    checkCompleteness w lf c f = .ok () ∧ checkFrameChannels w lf c f es = .ok () ∧ fid lf = true ∧
      checkReferences w lf es = .ok () :=
  (checkObjects_iff w lf c f es fid).mp (((acceptWrite_iff w c f es fid).mp hacc).1 lf hlf)

/-- in a state with consistent registries that `write` accepts, whatever an object holds was added through the
holder's logical file -/
theorem references_stay_inside (w : World) (hr : RegInv w) (c f : Nat) (es : List Edge) (fid : Nat → Bool)
    (hacc : acceptWrite w c f es fid = .ok ()) (e : Edge) (he : e ∈ es) (hh : e.holder < w.items.length) :
    ∃ ht : e.target < w.items.length, w.items[e.target].lf = w.items[e.holder].lf := by
  have hns := writable_noShared w ((acceptWrite_iff w c f es fid).mp hacc).2
  have hkey := hr.itemKey _ (List.getElem_mem hh)
  have htin := (checkReferences_iff w _ es).mp (accepted_checks hacc (lfKeys_mem_lt w _ _ hkey)).2.2.2 e he
    ((inLf_iff w _ _).mpr ⟨hh, hkey⟩)
  obtain ⟨ht, _⟩ := (inLf_iff w _ _).mp htin
  exact ⟨ht, (inLf_iff_lf w hr hns _ _ ht).mp htin⟩

end Dlis
