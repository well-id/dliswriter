import Dlismodel.Proofs.Eflr
namespace Dlis

/-! FILE-HEADER: `fileHeaderBody` writes its components by hand (a template that sets the representation code, the
labels as ASCII, attributes that carry nothing but the value), so it is not a `setBody`; it is read back with the
same lemmas on the reader, component by component. -/

/-- for fewer than 128 characters the UVARI length prefix of ASCII is the single length byte of IDENT -/
theorem encAscii_eq_encIdent (s : PStr) (h : s.length < 128) : encAscii s = encIdent s := by
  unfold encAscii encIdent
  rw [if_neg (by omega)]
  have : encUvari (s.length : Int) = .ok [b8 s.length] := by
    unfold encUvari encU
    rw [if_pos (by omega), if_pos (by simp; omega)]
    simp [beN]
  rw [this]
  cases asciiBytes s <;> rfl

/-- a justified field of fewer than 128 characters, behind its length byte, is one ASCII value: it is what
`encAscii` gives for the padded string -/
theorem valSplit_justify {s : PStr} {len : Nat} {left : Bool} {v : Bytes} (h : justify s len left = .ok v)
    (hlen : len < 128) (rest : Bytes) : valSplit 20 (b8 len :: (v ++ rest)) = some (b8 len :: v, rest) := by
  obtain ⟨p, hp, hv⟩ : ∃ p : PStr, p.length = len ∧ asciiBytes p = .ok v := by
    unfold justify at h
    split at h; · cases h
    exact ⟨_, by split <;> simp <;> omega, h⟩
  have : encAscii p = .ok (b8 len :: v) := by
    rw [encAscii_eq_encIdent p (by omega), encIdent, if_neg (by omega), hv, hp]; rfl
  exact valSplit_of_dec (decAscii_encAscii this rest) (fun _ => rfl)

def fhTemplate : List TAttr :=
  [{ label := sSEQ.map b8, count := 1, rc := 20, units := [] }, { label := sID.map b8, count := 1, rc := 20, units := [] }]

/-- FILE-HEADER (general): every body `FileHeaderSet._make_body_bytes` produces decodes under the component
grammar as one set of type FILE-HEADER with the two-entry template and exactly one object whose attributes are
the sequence number right-justified in 10 and the identifier left-justified in 65 ASCII characters -/
theorem parseEflr_fileHeaderBody (name : ObName) (seqNo : Int) (hid : PStr) (b : Bytes)
    (h : fileHeaderBody name seqNo hid = .ok b) :
    ∃ s i, justify (intStr seqNo) 10 false = .ok s ∧ justify hid 65 true = .ok i ∧
      parseEflr b = some
        { type := sFILEHEADER.map b8, name := none, template := fhTemplate,
          objects := [{ name := obnameVal name,
                        attrs := [some { count := 1, rc := 20, units := [], vals := [b8 10 :: s] },
                                  some { count := 1, rc := 20, units := [], vals := [b8 65 :: i] }] }] } := by
  simp only [fileHeaderBody, bind_ok, pure_ok] at h
  obtain ⟨t, ht, l1, hl1, l2, hl2, n, hn, s, hs, i, hi, rfl⟩ := h
  refine ⟨s, i, hs, hi, ?_⟩
  rw [encAscii_eq_encIdent _ (by decide)] at hl1 hl2
  simp only [List.cons_append, List.append_assoc, List.nil_append]
  refine parseEflr_set (r3 := 0x70 :: (n ++ 0x21 :: 10 :: (s ++ 0x21 :: 65 :: i))) rfl rfl rfl ht (by decide) rfl ?_
    (by decide) ?_ (List.cons_ne_nil _ _)
  · -- template: two entries 0x34 (label, representation code), up to the OBJECT component
    obtain ⟨f, hf⟩ : ∃ f, List.length (0x34 :: (l1 ++ 20 :: 0x34 :: (l2 ++ 20 :: 0x70 ::
        (n ++ 0x21 :: 10 :: (s ++ 0x21 :: 65 :: i))))) + 1 = f + 3 :=
      ⟨l1.length + l2.length + (n ++ 0x21 :: 10 :: (s ++ 0x21 :: 65 :: i)).length + 3, by
        simp only [List.length_cons, List.length_append]; omega⟩
    rw [hf, parseTemplate_cons (by decide) (parseTAttr_label rfl rfl rfl hl1 (by decide) rfl),
      parseTemplate_cons (by decide) (parseTAttr_label rfl rfl rfl hl2 (by decide) rfl),
      parseTemplate_stop f _ (by decide)]
    rfl
  · -- one object; its two attributes 0x21 carry only the value, count and code come from the template
    have v1 : valSplit 20 (10 :: (s ++ 0x21 :: 65 :: i)) = some (b8 10 :: s, 0x21 :: 65 :: i) :=
      valSplit_justify hs (by decide) _
    have v2 : valSplit 20 (65 :: i) = some (b8 65 :: i, []) := by
      have := valSplit_justify hi (by decide) []
      rwa [List.append_nil] at this
    have as : parseOAttrs fhTemplate (0x21 :: 10 :: (s ++ 0x21 :: 65 :: i)) =
        some ([some { count := 1, rc := 20, units := [], vals := [b8 10 :: s] },
               some { count := 1, rc := 20, units := [], vals := [b8 65 :: i] }], []) :=
      (parseOAttrs_attrib (d := 0x21) rfl rfl rfl (by rw [if_pos (by decide)]; exact valsSplit_one v1)).trans
        (by rw [parseOAttrs_attrib (d := 0x21) rfl rfl rfl (by rw [if_pos (by decide)]; exact valsSplit_one v2)]; rfl)
    rw [List.length_cons, parseObjs_cons (decObname_encObname hn _) as (.inl rfl)]
    cases (n ++ 0x21 :: 10 :: (s ++ 0x21 :: 65 :: i)).length <;> rfl

end Dlis
