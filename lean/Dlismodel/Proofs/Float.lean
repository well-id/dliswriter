/-
  Rounding a double to a single (`f64ToF32`, Model/Eflr.lean): what `struct.pack('>f', x)` writes for a Python float.
  Magnitudes are compared as natural numbers: a double in units of 2^-1074 (`f64Mag`), a single in units of 2^-149
  (`f32Mag`, scaled by 2^925 for the comparison).  `f32Mag` is defined on ALL magnitude bit patterns, continuing the
  exponent range upwards beyond 254, which is how IEEE 754 defines overflow.

  The argument has three layers.  (1) On any strictly increasing scale of marks, rounding half-to-even between two
  neighbouring marks picks a mark nearest among all marks (`round_half_even`), and such a choice passes an even mark
  exactly from the half-way point on (`nearest_even_ge_iff`): no floating point in it.  (2) `f32Mag` is such a scale, and
  the marks around a double of exponent field `e'` are multiples of `2 ^ f32Shift e'` double-units (`f32Mag_fields`,
  `f32Mag_base`).  (3) `roundMag` is (1) on (2); `f64ToF32` wraps it.
-/
import Dlismodel.Model.Eflr
import Dlismodel.Proofs.Util
namespace Dlis

/-- magnitude of a single given by its magnitude bits (sign removed), in units of 2^-149 -/
def f32Mag (k : Nat) : Nat :=
  if k / 2 ^ 23 = 0 then k % 2 ^ 23 else (2 ^ 23 + k % 2 ^ 23) * 2 ^ (k / 2 ^ 23 - 1)

/-- magnitude of a finite double, in units of 2^-1074 -/
def f64Mag (b : Nat) : Nat :=
  if b / 2 ^ 52 % 2048 = 0 then b % 2 ^ 52 else (2 ^ 52 + b % 2 ^ 52) * 2 ^ (b / 2 ^ 52 % 2048 - 1)

def dist (a b : Nat) : Nat := (a - b) + (b - a)

/-! ### rounding on a strictly increasing scale -/

section scale
variable {g : Nat → Nat} (hg : ∀ {a b}, a < b → g a < g b)
include hg

theorem scale_le {a b : Nat} (h : a ≤ b) : g a ≤ g b :=
  (Nat.lt_or_eq_of_le h).elim (fun h => Nat.le_of_lt (hg h)) (fun h => h ▸ Nat.le_refl _)

/-- with `x` between the neighbouring marks `g k` and `g (k + 1)`, any mark `g t` is at least as far from `x` as the
neighbour on its side, and farther unless it is that neighbour -/
theorem dist_mark {k x : Nat} (hlo : g k ≤ x) (hhi : x ≤ g (k + 1)) (t : Nat) :
    (dist x (g k) ≤ dist x (g t) ∧ (t ≠ k → dist x (g k) < dist x (g t))) ∨
      (dist x (g (k + 1)) ≤ dist x (g t) ∧ (t ≠ k + 1 → dist x (g (k + 1)) < dist x (g t))) := by
  unfold dist
  rcases Nat.lt_trichotomy t k with h | rfl | h
  · have := hg h; left; omega
  · left; omega
  · rcases Nat.lt_or_eq_of_le (show k + 1 ≤ t from h) with h | rfl
    · have := hg h; right; omega
    · right; omega

/-- Round to nearest, ties to even, between two neighbouring marks `g k`, `g (k + 1)` that are `2 * h` steps of `U`
apart: `x` lies `r` steps above `g k`, and the parity of `q` breaks a tie.  The mark chosen is nearest to `x` among
ALL marks; if another is as near, `q + up` is even. -/
theorem round_half_even {k h U r q up : Nat} (hU : 0 < U) (hr : r < 2 * h) (hhi : g (k + 1) = g k + 2 * (h * U))
    (hup : up = if r > h ∨ (r = h ∧ q % 2 = 1) then 1 else 0) (t : Nat) :
    dist (g k + r * U) (g (k + up)) ≤ dist (g k + r * U) (g t) ∧
      (t ≠ k + up → dist (g k + r * U) (g (k + up)) = dist (g k + r * U) (g t) → (q + up) % 2 = 0) := by
  have hr' := Nat.mul_assoc 2 h U ▸ Nat.mul_lt_mul_of_pos_right hr hU
  have hm := dist_mark hg (Nat.le_add_right (g k) (r * U)) (by omega) t
  -- the two candidates are `r * U` and `2 * (h * U) - r * U` away: it is `r` against `h`
  have d0 : dist (g k + r * U) (g k) = r * U := by unfold dist; omega
  have d1 : dist (g k + r * U) (g (k + 1)) + r * U = 2 * (h * U) := by unfold dist; omega
  rcases Nat.lt_trichotomy r h with hc | hc | hc
  · have := Nat.mul_lt_mul_of_pos_right hc hU
    obtain rfl : up = 0 := hup.trans (if_neg (by omega))
    rw [Nat.add_zero]; omega
  · subst hc
    rcases Nat.mod_two_eq_zero_or_one q with hq | hq
    · obtain rfl : up = 0 := hup.trans (if_neg (by omega))
      rw [Nat.add_zero]; omega
    · obtain rfl : up = 1 := hup.trans (if_pos (by omega))
      omega
  · have := Nat.mul_lt_mul_of_pos_right hc hU
    obtain rfl : up = 1 := hup.trans (if_pos (by omega))
    omega

/-- a nearest mark `g c`, even when there is a tie, has passed the even mark `T + 1` iff `x` has reached the point
half-way between `g T` and `g (T + 1)` -/
theorem nearest_even_ge_iff {c x T : Nat} (hnear : ∀ t, dist x (g c) ≤ dist x (g t))
    (htie : ∀ t, t ≠ c → dist x (g c) = dist x (g t) → c % 2 = 0) (hT : T % 2 = 1) :
    T + 1 ≤ c ↔ g T + g (T + 1) ≤ 2 * x := by
  have hT1 := hg (Nat.lt_add_one T)
  constructor
  · intro h
    have := scale_le hg h
    have := hnear T
    unfold dist at this
    omega
  · intro h
    apply Classical.byContradiction
    intro hc
    -- `g c ≤ g T` is no farther than `g (T + 1)` only if `c = T` and the two are equally far; but `T` is odd
    have := scale_le hg (show c ≤ T by omega)
    have h1 := hnear (T + 1)
    have ⟨he, ht⟩ : g c = g T ∧ dist x (g c) = dist x (g (T + 1)) := by unfold dist at h1 ⊢; omega
    have : ¬ c < T := fun h' => Nat.ne_of_lt (hg h') he
    have := htie (T + 1) (by omega) ht
    omega
end scale

/-! ### the scale of single magnitudes -/

/-- `f32Mag` on exponent field `e` and fraction `m`; `m = 2 ^ 23` is included: the carry out of the fraction runs into
the exponent and gives the right magnitude -/
theorem f32Mag_fields (e m : Nat) (hm : m ≤ 2 ^ 23) :
    f32Mag (e * 2 ^ 23 + m) = if e = 0 then m else (2 ^ 23 + m) * 2 ^ (e - 1) := by
  unfold f32Mag
  rcases Nat.lt_or_eq_of_le hm with hm | rfl
  · have h1 : (e * 2 ^ 23 + m) / 2 ^ 23 = e := by omega
    have h2 : (e * 2 ^ 23 + m) % 2 ^ 23 = m := by omega
    rw [h1, h2]
  · have h1 : (e * 2 ^ 23 + 2 ^ 23) / 2 ^ 23 = e + 1 := by omega
    have h2 : (e * 2 ^ 23 + 2 ^ 23) % 2 ^ 23 = 0 := by omega
    rw [h1, h2, if_neg (Nat.succ_ne_zero e), Nat.add_sub_cancel]
    cases e with
    | zero => rfl
    | succ j => rw [if_neg (Nat.succ_ne_zero j), Nat.add_sub_cancel, Nat.pow_succ]; omega

theorem f32Mag_succ (k : Nat) : f32Mag k < f32Mag (k + 1) := by
  obtain ⟨e, m, hm, rfl⟩ : ∃ e m, m < 2 ^ 23 ∧ k = e * 2 ^ 23 + m :=
    ⟨k / 2 ^ 23, k % 2 ^ 23, Nat.mod_lt _ (Nat.two_pow_pos 23), by omega⟩
  rw [Nat.add_assoc, f32Mag_fields e m (Nat.le_of_lt hm), f32Mag_fields e (m + 1) hm]
  split
  · exact Nat.lt_succ_self m
  · exact Nat.mul_lt_mul_of_pos_right (Nat.lt_succ_self _) (Nat.two_pow_pos _)

theorem f32Mag_strict {a b : Nat} (h : a < b) : f32Mag a < f32Mag b := by
  induction b with
  | zero => omega
  | succ n ih =>
    rcases Nat.lt_or_eq_of_le (Nat.le_of_lt_succ h) with h' | rfl
    · exact Nat.lt_trans (ih h') (f32Mag_succ n)
    · exact f32Mag_succ a

/-- single magnitudes in double-units -/
theorem f32Scale_strict {a b : Nat} (h : a < b) : f32Mag a * 2 ^ 925 < f32Mag b * 2 ^ 925 :=
  Nat.mul_lt_mul_of_pos_right (f32Mag_strict h) (Nat.two_pow_pos _)

theorem two_pow_mul_eq {a b c d : Nat} (h : a + b = c + d) : 2 ^ a * 2 ^ b = 2 ^ c * 2 ^ d := by
  rw [← Nat.pow_add, ← Nat.pow_add, h]

/-- the singles around a double of exponent field `e'`: magnitude bits `f32Base e' + q` stand for `q` units of
`2 ^ f32Shift e'` double-units -/
theorem f32Mag_base (e' q : Nat) (he1 : 1 ≤ e') (hn : e' ≥ 897 → 2 ^ 23 ≤ q ∧ q ≤ 2 ^ 24) (hs : e' < 897 → q ≤ 2 ^ 23) :
    f32Mag (f32Base e' + q) * 2 ^ 925 = 2 ^ f32Shift e' * q * 2 ^ (e' - 1) := by
  unfold f32Base f32Shift
  rw [Nat.mul_comm _ q, Nat.mul_assoc q]
  by_cases he : e' ≥ 897
  · have ⟨h1, h2⟩ := hn he
    have hk : (e' - 897) * 2 ^ 23 + q = (e' - 896) * 2 ^ 23 + (q - 2 ^ 23) := by omega
    rw [if_pos he, if_pos he, hk, f32Mag_fields _ _ (by omega), if_neg (by omega), Nat.add_sub_cancel' h1, Nat.mul_assoc,
      two_pow_mul_eq (show e' - 896 - 1 + 925 = 29 + (e' - 1) by omega)]
  · have := f32Mag_fields 0 q (hs (by omega))
    rw [Nat.zero_mul] at this
    rw [if_neg he, if_neg he, this, if_pos rfl, ← Nat.pow_add, show 926 - e' + (e' - 1) = 925 by omega]

theorem f32Shift_pos (e' : Nat) : 1 ≤ f32Shift e' := by
  unfold f32Shift; split <;> omega

theorem f32Base_even (e' : Nat) : f32Base e' % 2 = 0 := by
  unfold f32Base; split <;> omega

/-! ### `roundMag` -/

/-- rounding picks, among ALL single magnitudes `t`, one nearest to the double `sig * 2 ^ (e' - 1)` (both in units of
2 ^ -1074, the single scaled by 2 ^ 925); when another one is equally near, the one picked has an even significand -/
theorem roundMag_spec (sig e' : Nat) (he1 : 1 ≤ e') (hsig : sig < 2 ^ 53) (hnorm : e' ≥ 897 → 2 ^ 52 ≤ sig) (t : Nat) :
    dist (sig * 2 ^ (e' - 1)) (f32Mag (roundMag sig e') * 2 ^ 925) ≤ dist (sig * 2 ^ (e' - 1)) (f32Mag t * 2 ^ 925) ∧
    (t ≠ roundMag sig e' →
      dist (sig * 2 ^ (e' - 1)) (f32Mag (roundMag sig e') * 2 ^ 925) = dist (sig * 2 ^ (e' - 1)) (f32Mag t * 2 ^ 925) →
      roundMag sig e' % 2 = 0) := by
  have hS : 2 ^ f32Shift e' = 2 * 2 ^ (f32Shift e' - 1) := by
    rw [Nat.mul_comm, ← Nat.pow_succ]; congr 1; have := f32Shift_pos e'; omega
  have hdm := Nat.div_add_mod sig (2 ^ f32Shift e')
  have hr := Nat.lt_of_lt_of_eq (Nat.mod_lt sig (Nat.two_pow_pos (f32Shift e'))) hS
  -- the truncated quotient and its successor are in the range of `f32Mag_base`
  have hq : (e' ≥ 897 → 2 ^ 23 ≤ sig / 2 ^ f32Shift e' ∧ sig / 2 ^ f32Shift e' + 1 ≤ 2 ^ 24) ∧
      (e' < 897 → sig / 2 ^ f32Shift e' + 1 ≤ 2 ^ 23) := by
    unfold f32Shift
    refine ⟨fun h => ?_, fun h => ?_⟩
    · have := hnorm h; rw [if_pos h]; omega
    · rw [if_neg (by omega)]
      have := Nat.pow_le_pow_right (n := 2) (by decide) (show 30 ≤ 926 - e' by omega)
      exact (Nat.div_lt_iff_lt_mul (Nat.two_pow_pos _)).2 (by omega)
  have hlo := f32Mag_base e' (sig / 2 ^ f32Shift e') he1 (fun h => by have := hq.1 h; omega) (fun h => by have := hq.2 h; omega)
  have hhi := f32Mag_base e' (sig / 2 ^ f32Shift e' + 1) he1 (fun h => by have := hq.1 h; omega) hq.2
  have hW : 2 ^ f32Shift e' * 2 ^ (e' - 1) = 2 * (2 ^ (f32Shift e' - 1) * 2 ^ (e' - 1)) := by rw [hS, Nat.mul_assoc]
  rw [Nat.mul_add, Nat.mul_one, Nat.add_mul, ← hlo, ← Nat.add_assoc, hW] at hhi
  have hx : sig * 2 ^ (e' - 1) = f32Mag (f32Base e' + sig / 2 ^ f32Shift e') * 2 ^ 925 +
      sig % 2 ^ f32Shift e' * 2 ^ (e' - 1) := by
    rw [hlo, ← Nat.add_mul, hdm]
  have := round_half_even (g := fun t => f32Mag t * 2 ^ 925) f32Scale_strict (q := sig / 2 ^ f32Shift e')
    (up := roundUp sig (f32Shift e')) (Nat.two_pow_pos (e' - 1)) hr hhi rfl t
  rw [← hx] at this
  refine ⟨this.1, fun hne heq => ?_⟩
  have := this.2 hne heq
  have := f32Base_even e'
  unfold roundMag
  omega

theorem f32Mag_inf : f32Mag (255 * 2 ^ 23) = 2 ^ 24 * 2 ^ 253 := by
  have := f32Mag_fields 255 0 (Nat.zero_le _)
  rwa [if_neg (by decide)] at this

theorem f32Mag_max : f32Mag (255 * 2 ^ 23 - 1) = (2 ^ 24 - 1) * 2 ^ 253 := by
  have := f32Mag_fields 254 (2 ^ 23 - 1) (by decide)
  rwa [if_neg (by decide)] at this

/-- the refusal threshold as a value: a finite double is refused iff its magnitude is at least half-way between the
largest finite single (2^24 - 1) * 2^104 and 2^128, i.e. `(2^25 - 1) * 2^103` — in units of 2^-1074, doubled -/
theorem roundMag_overflow_iff (sig e' : Nat) (he1 : 1 ≤ e') (hsig : sig < 2 ^ 53) (hnorm : e' ≥ 897 → 2 ^ 52 ≤ sig) :
    255 * 2 ^ 23 ≤ roundMag sig e' ↔ (2 ^ 25 - 1) * (2 ^ 253 * 2 ^ 925) ≤ 2 * (sig * 2 ^ (e' - 1)) := by
  have := nearest_even_ge_iff (g := fun t => f32Mag t * 2 ^ 925) f32Scale_strict (T := 255 * 2 ^ 23 - 1)
    (fun t => (roundMag_spec sig e' he1 hsig hnorm t).1) (fun t => (roundMag_spec sig e' he1 hsig hnorm t).2) (by decide)
  rwa [show 255 * 2 ^ 23 - 1 + 1 = 255 * 2 ^ 23 by decide, f32Mag_max, f32Mag_inf, Nat.mul_assoc, Nat.mul_assoc,
    ← Nat.add_mul, show (2 : Nat) ^ 24 - 1 + 2 ^ 24 = 2 ^ 25 - 1 by decide] at this

/-! ### `f64ToF32` -/

/-- a finite double as significand and exponent, and what `f64ToF32` makes of it -/
theorem f64ToF32_finite (b : Nat) (hfin : b / 2 ^ 52 % 2048 ≠ 2047) :
    ∃ sig e', 1 ≤ e' ∧ sig < 2 ^ 53 ∧ (e' ≥ 897 → 2 ^ 52 ≤ sig) ∧ f64Mag b = sig * 2 ^ (e' - 1) ∧
      f64ToF32 b = if roundMag sig e' ≥ 255 * 2 ^ 23 then .error .overflow
        else .ok (b / 2 ^ 63 * 2 ^ 31 + roundMag sig e') := by
  unfold f64ToF32 f64Mag
  dsimp only
  rw [if_neg hfin]
  by_cases hz : b / 2 ^ 52 % 2048 = 0
  · rw [if_pos hz, if_pos hz, if_pos hz]
    exact ⟨_, _, Nat.le_refl 1, by omega, by omega, (Nat.mul_one _).symm, rfl⟩
  · rw [if_neg hz, if_neg hz, if_neg hz]
    exact ⟨_, _, by omega, by omega, by omega, rfl, rfl⟩

/-- the same, for a double that is packed -/
theorem f64ToF32_ok {b r : Nat} (hfin : b / 2 ^ 52 % 2048 ≠ 2047) (h : f64ToF32 b = .ok r) :
    ∃ sig e', 1 ≤ e' ∧ sig < 2 ^ 53 ∧ (e' ≥ 897 → 2 ^ 52 ≤ sig) ∧ f64Mag b = sig * 2 ^ (e' - 1) ∧
      roundMag sig e' < 255 * 2 ^ 23 ∧ r / 2 ^ 31 = b / 2 ^ 63 ∧ r % 2 ^ 31 = roundMag sig e' := by
  obtain ⟨sig, e', he1, hsig, hnorm, hmag, hf⟩ := f64ToF32_finite b hfin
  rw [hf] at h
  split at h
  · cases h
  · injection h with h
    exact ⟨sig, e', he1, hsig, hnorm, hmag, by omega, by omega, by omega⟩

/-- infinities stay infinities of the same sign; a NaN stays a NaN of the same sign -/
theorem f64ToF32_special (b : Nat) (h : b / 2 ^ 52 % 2048 = 2047) :
    ∃ r, f64ToF32 b = .ok r ∧ r / 2 ^ 31 = b / 2 ^ 63 ∧ r / 2 ^ 23 % 256 = 255 ∧
      (r % 2 ^ 23 = 0 ↔ b % 2 ^ 52 = 0) := by
  unfold f64ToF32
  dsimp only
  rw [if_pos h]
  split
  · rename_i hm
    obtain ⟨h1, h2, h3⟩ := f32_bits (s := b / 2 ^ 63) (e := 255) (m := 0) rfl (by decide) (by decide)
    exact ⟨_, rfl, h1, h2, fun _ => hm, fun _ => h3⟩
  · rename_i hm
    have hx := Nat.mod_lt (b % 2 ^ 52 / 2 ^ 29) (Nat.two_pow_pos 22)
    obtain ⟨h1, h2, h3⟩ := f32_bits (s := b / 2 ^ 63) (e := 255) (Nat.add_assoc _ (2 ^ 22) _) (by decide)
      (show 2 ^ 22 + b % 2 ^ 52 / 2 ^ 29 % 2 ^ 22 < 2 ^ 23 by omega)
    exact ⟨_, rfl, h1, h2, fun h0 => by omega, fun h0 => absurd h0 hm⟩

/-- the packed single fits its four bytes -/
theorem f64ToF32_lt (b r : Nat) (hb : b < 2 ^ 64) (h : f64ToF32 b = .ok r) : r < 2 ^ 32 := by
  by_cases hfin : b / 2 ^ 52 % 2048 = 2047
  · obtain ⟨r', hr, h1, _⟩ := f64ToF32_special b hfin
    obtain rfl : r' = r := by rw [hr] at h; injection h
    omega
  · obtain ⟨_, _, _, _, _, _, _, h1, _⟩ := f64ToF32_ok hfin h
    omega

/-- a finite double whose magnitude a single can hold (normal or subnormal) is packed to that single: the mark picked is
no farther from the mark `t` than `t` itself, and the scale is strict -/
theorem f64ToF32_exact {b t : Nat} (hfin : b / 2 ^ 52 % 2048 ≠ 2047) (ht : t < 255 * 2 ^ 23)
    (h : f64Mag b = f32Mag t * 2 ^ 925) : f64ToF32 b = .ok (b / 2 ^ 63 * 2 ^ 31 + t) := by
  obtain ⟨sig, e', he1, hsig, hnorm, hmag, hf⟩ := f64ToF32_finite b hfin
  have h0 := (roundMag_spec sig e' he1 hsig hnorm t).1
  rw [← hmag, h] at h0
  unfold dist at h0
  have : roundMag sig e' = t := by
    rcases Nat.lt_trichotomy (roundMag sig e') t with hlt | heq | hgt
    · have := f32Scale_strict hlt; omega
    · exact heq
    · have := f32Scale_strict hgt; omega
  rw [hf, this, if_neg (by omega)]

/-- a single widened to a double (normal, zero or infinite) packs back to itself: its magnitude is a mark.  The bound
on `b` is not needed (surplus high bits travel with the sign); it is cleared because `omega` runs out of recursion
depth when it meets it together with the equation for `d`. -/
theorem f64ToF32_widen (b d : Nat) (_hb : b < 2 ^ 32) (h : f32ToF64 b = some d) : f64ToF32 d = .ok b := by
  clear _hb
  unfold f32ToF64 at h
  dsimp only at h
  have hb' : b / 2 ^ 31 * 2 ^ 31 + b / 2 ^ 23 % 256 * 2 ^ 23 + b % 2 ^ 23 = b := by omega
  have hE : b / 2 ^ 23 % 256 < 256 := Nat.mod_lt _ (by decide)
  have hM : b % 2 ^ 23 < 2 ^ 23 := Nat.mod_lt _ (by decide)
  generalize b / 2 ^ 31 = s at *
  generalize b / 2 ^ 23 % 256 = E at *
  generalize b % 2 ^ 23 = M at *
  subst hb'
  split at h
  · split at h
    · injection h with h
      subst h E M
      obtain ⟨h1, h2, h3⟩ := f64_bits (d := s * 2 ^ 63) (s := s) (e := 0) (m := 0) (by simp) (by decide) (by decide)
      have hmag : f64Mag (s * 2 ^ 63) = f32Mag 0 * 2 ^ 925 := by
        unfold f64Mag
        rewrite [h2, h3, show f32Mag 0 = 0 from rfl, Nat.zero_mul]
        rfl
      rewrite [f64ToF32_exact (h2 ▸ by decide) (by decide) hmag, h1]
      exact congrArg Except.ok (by omega)
    · cases h
  · split at h
    · split at h
      · injection h with h
        subst h E M
        obtain ⟨h1, h2, h3⟩ := f64_bits (s := s) (e := 2047) (m := 0) rfl (by decide) (by decide)
        unfold f64ToF32
        rewrite [h1, h2, h3, if_pos rfl, if_pos rfl]
        exact congrArg Except.ok (by omega)
      · cases h
    · injection h with h
      rename_i hE0 hE255
      have hE' : E + 896 < 2047 := by omega
      have hlt : E * 2 ^ 23 + M < 255 * 2 ^ 23 := by omega
      have hpow := two_pow_mul_eq (show 29 + (E + 896 - 1) = E - 1 + 925 by omega)
      obtain ⟨h1, h2, h3⟩ := f64_bits h.symm (Nat.lt_succ_of_lt hE') (Nat.mul_lt_mul_of_pos_right (k := 2 ^ 29) hM (by decide))
      -- `(2 ^ 23 + M) * 2 ^ 29` double-units of `2 ^ (E + 895)` are `2 ^ 23 + M` single-units of `2 ^ (E - 1)`
      have hmag : f64Mag d = f32Mag (E * 2 ^ 23 + M) * 2 ^ 925 := by
        unfold f64Mag
        rw [h2, h3, if_neg (Nat.succ_ne_zero _), f32Mag_fields E M (Nat.le_of_lt hM), if_neg hE0,
          show 2 ^ 52 + M * 2 ^ 29 = (2 ^ 23 + M) * 2 ^ 29 from (Nat.add_mul (2 ^ 23) M (2 ^ 29)).symm, Nat.mul_assoc,
          Nat.mul_assoc, hpow]
      rewrite [f64ToF32_exact (h2 ▸ Nat.ne_of_lt hE') hlt hmag, h1, Nat.add_assoc]
      rfl

/-- an integer converted to a double is a proper bit pattern -/
theorem intToF64_lt (i : Int) (d : Nat) (h : intToF64 i = some d) : d < 2 ^ 64 := by
  unfold intToF64 at h
  split at h
  · injection h with h; omega
  · dsimp only at h
    split at h
    · cases h
    · injection h with h
      rename_i h0 ha
      have hne : i.natAbs ≠ 0 := by omega
      have he : Nat.log2 i.natAbs < 53 := (Nat.log2_lt hne).mpr (by omega)
      have hm := (norm_sig (n := 52) (by omega) (Nat.log2_self_le hne) Nat.lt_log2_self).2
      generalize i.natAbs * 2 ^ (52 - Nat.log2 i.natAbs) = X at *
      generalize Nat.log2 i.natAbs = e at *
      have : (e + 1023) * 2 ^ 52 ≤ 1075 * 2 ^ 52 := Nat.mul_le_mul_right _ (by omega)
      split at h <;> omega

end Dlis
