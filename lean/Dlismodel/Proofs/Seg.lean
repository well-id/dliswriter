/-
  Framing in three layers.  A record body is cut into chunks (`chunks_spec`: they make up the body and each fits
  a segment); `flagChunks` in closed form (`flagChunks_eq`) gives every flag by position; one segment and one
  visible record are read back as written (`parseSeg_encSeg`, `parseVRs_encVR`).  The file-level statements
  are in `Props/C01`, `C02`, `C15`.
-/
import Dlismodel.Model.Seg
import Dlismodel.Model.Parse
import Dlismodel.Proofs.Prim
namespace Dlis

theorem stepSize_bounds (cap rem : Nat) (hc : 12 ≤ cap) (hr : 0 < rem) :
    1 ≤ stepSize cap rem ∧ stepSize cap rem ≤ rem ∧ stepSize cap rem ≤ cap := by
  unfold stepSize
  simp only []
  split <;> omega

/-- what is left after a step is either nothing or at least 12 bytes: no later segment needs padding
up to the minimum unless the whole record is shorter than 12 bytes (and then it is the only one) -/
theorem stepSize_remainder (cap rem : Nat) (hc : 24 ≤ cap) (hr : 12 ≤ rem) :
    12 ≤ stepSize cap rem ∧ (rem - stepSize cap rem = 0 ∨ 12 ≤ rem - stepSize cap rem) := by
  unfold stepSize
  simp only []
  split <;> omega

/-- with enough fuel the sizes add up to what was to be split, and each is a possible segment body -/
theorem splitSizes_spec (cap : Nat) (hc : 12 ≤ cap) : ∀ fuel rem, rem ≤ fuel →
    (splitSizes cap fuel rem).sum = rem ∧ ∀ n ∈ splitSizes cap fuel rem, 1 ≤ n ∧ n ≤ cap := by
  intro fuel
  induction fuel with
  | zero => intro rem h; simp [splitSizes]; omega
  | succ fuel ih =>
    intro rem h
    unfold splitSizes
    split
    · simp_all
    · have hb := stepSize_bounds cap rem hc (by omega)
      have ⟨hs, hn⟩ := ih (rem - stepSize cap rem) (by omega)
      simp only [List.sum_cons, List.mem_cons, forall_eq_or_imp, hs]
      exact ⟨by omega, ⟨hb.1, hb.2.2⟩, hn⟩

theorem cut_spec : ∀ (sizes : List Nat) (b : Bytes), sizes.sum = b.length →
    (cut sizes b).flatten = b ∧ (cut sizes b).map List.length = sizes := by
  intro sizes
  induction sizes with
  | nil => intro b h; simp at h; simp [cut, List.length_eq_zero_iff.mp h.symm]
  | cons n ns ih =>
    intro b h
    simp only [List.sum_cons] at h
    have ⟨hf, hl⟩ := ih (b.drop n) (by simp; omega)
    simp only [cut, List.flatten_cons, List.map_cons, hf, hl, List.take_append_drop, List.length_take,
      Nat.min_eq_left (show n ≤ b.length by omega), and_self]

/-- the chunks a record body is cut into: they make up the body, and each fits a segment -/
theorem chunks_spec (cap : Nat) (hc : 12 ≤ cap) (b : Bytes) :
    (cut (splitSizes cap b.length b.length) b).flatten = b ∧
      ∀ c ∈ cut (splitSizes cap b.length b.length) b, 1 ≤ c.length ∧ c.length ≤ cap := by
  have ⟨hs, hn⟩ := splitSizes_spec cap hc _ _ (Nat.le_refl b.length)
  have ⟨hf, hl⟩ := cut_spec _ b hs
  exact ⟨hf, fun c hc => hn _ (hl ▸ List.mem_map_of_mem hc)⟩

theorem flagChunks_eq (e : Bool) (t : Nat) (first : Bool) (cs : List Bytes) :
    flagChunks e t first cs = cs.mapIdx fun i c =>
      { eflr := e, type := t, pred := !(first && i == 0), succ := decide (i + 1 ≠ cs.length), payload := c } := by
  induction cs generalizing first with
  | nil => simp [flagChunks]
  | cons c cs ih =>
    cases cs with
    | nil => simp [flagChunks]
    | cons c' cs' => simp [flagChunks, ih false, List.mapIdx_cons]


theorem assemble_cont (e : Bool) (t : Nat) : ∀ (cs : List Bytes) (r : Rec) (rest : List PSeg),
    cs ≠ [] → r.isEflr = e → r.type = t →
    assemble (some r) (flagChunks e t false cs ++ rest) =
      (assemble none rest).map ({ r with body := r.body ++ cs.flatten } :: ·) := by
  intro cs
  induction cs with
  | nil => intro r rest h; exact absurd rfl h
  | cons c cs ih =>
    intro r rest _ he ht
    cases cs with
    | nil =>
      simp [flagChunks, assemble, he, ht]
    | cons c' cs' =>
      simp only [flagChunks, List.cons_append, assemble, Bool.not_false, Bool.not_true, he, ht]
      simp only [ne_eq, not_true_eq_false, Bool.false_eq_true, or_self, ↓reduceIte]
      have := ih { isEflr := e, type := t, body := r.body ++ c } rest (by simp) rfl rfl
      rw [this]
      simp [List.append_assoc]

theorem assemble_record (e : Bool) (t : Nat) (cs : List Bytes) (rest : List PSeg) (h : cs ≠ []) :
    assemble none (flagChunks e t true cs ++ rest) =
      (assemble none rest).map ({ isEflr := e, type := t, body := cs.flatten } :: ·) := by
  cases cs with
  | nil => exact absurd rfl h
  | cons c cs =>
    cases cs with
    | nil => simp [flagChunks, assemble]
    | cons c' cs' =>
      simp only [flagChunks, List.cons_append, assemble, Bool.not_true]
      simp only [Bool.false_eq_true, ↓reduceIte]
      rw [assemble_cont e t (c' :: cs') _ rest (by simp) rfl rfl]
      simp

/-- reassembling the abstract segments of a list of records gives back the records with non-empty body -/
theorem assemble_segsOf (cap : Nat) (hc : 12 ≤ cap) (recs : List Rec) :
    assemble none (recs.flatMap (segsOf cap)) = some (recs.filter (fun r => !r.body.isEmpty)) := by
  induction recs with
  | nil => simp [assemble]
  | cons r rs ih =>
    have hf := (chunks_spec cap hc r.body).1
    simp only [List.flatMap_cons, segsOf]
    by_cases hb : r.body = []
    · simp [hb, splitSizes, cut, flagChunks, ih]
    · rw [assemble_record _ _ _ _ (fun h => hb (by rw [← hf, h]; rfl)), ih, hf]
      simp [hb]


/-- a segment the writer can emit for capacity `cap` -/
def SegOk (cap : Nat) (s : PSeg) : Prop := 1 ≤ s.payload.length ∧ s.payload.length ≤ cap ∧ s.type < 256

/-- every segment produced for a record with a type byte is one the reader accepts -/
theorem segsOf_ok (cap : Nat) (hc : 12 ≤ cap) (r : Rec) (ht : r.type < 256) :
    ∀ s ∈ segsOf cap r, SegOk cap s := by
  intro s hs
  simp only [segsOf, flagChunks_eq, List.mem_mapIdx] at hs
  obtain ⟨i, hi, rfl⟩ := hs
  have := (chunks_spec cap hc r.body).2 _ (List.getElem_mem hi)
  exact ⟨this.1, this.2, ht⟩


/-! ### bytes of one segment -/

theorem padLen_spec (n : Nat) :
    (n + padLen n) % 2 = 0 ∧ 12 ≤ n + padLen n ∧ padLen n ≤ 12 ∧ (12 ≤ n → padLen n = n % 2) ∧ (n + padLen n ≤ n + 1 ∨ n + padLen n = 12) := by
  unfold padLen
  simp only []
  split <;> omega

def segLen (s : PSeg) : Nat := s.payload.length + padLen s.payload.length + 4

theorem encSeg_length (s : PSeg) : (encSeg s).length = segLen s := by
  simp [encSeg, segLen]; omega

/-- the attribute byte is a byte, leaves the four bits the writer never sets clear, and gives back each flag -/
theorem attrByte_spec (s : PSeg) (pad : Bool) :
    attrByte s pad < 256 ∧ attrByte s pad / 2 % 16 = 0 ∧ decide (attrByte s pad / 128 = 1) = s.eflr ∧
      decide (attrByte s pad / 64 % 2 = 1) = s.pred ∧ decide (attrByte s pad / 32 % 2 = 1) = s.succ ∧
      (attrByte s pad % 2 = 1 ↔ pad = true) := by
  unfold attrByte
  cases s.eflr <;> cases s.pred <;> cases s.succ <;> cases pad <;> decide

theorem getLast?_append_replicate (l : Bytes) (p : Nat) (x : UInt8) (hp : 0 < p) :
    (l ++ List.replicate p x).getLast? = some x := by
  obtain ⟨q, rfl⟩ : ∃ q, p = q + 1 := ⟨p - 1, by omega⟩
  rw [List.replicate_succ', ← List.append_assoc, List.getLast?_append]
  simp

theorem parseSeg_encSeg {cap : Nat} {s : PSeg} (rest : Bytes) (hs : SegOk cap s) (hcap : cap ≤ 65000) :
    parseSeg (encSeg s ++ rest) = some (s, rest) := by
  obtain ⟨h1, h2, ht⟩ := hs
  have hp := padLen_spec s.payload.length
  have ⟨ha0, ha1, ha2, ha3, ha4, ha5⟩ := attrByte_spec s (padLen s.payload.length != 0)
  generalize hpd : padLen s.payload.length = p at hp ha0 ha1 ha2 ha3 ha4 ha5
  have hlen : s.payload.length + p + 4 < 65536 := by omega
  have hbody : s.payload.length + p + 4 - 4 = (s.payload ++ List.replicate p (b8 p)).length := by simp
  simp only [encSeg, hpd, beN2, List.cons_append, List.nil_append, List.append_assoc, parseSeg,
    be2_toNat hlen, b8_toNat_of_lt ha0, b8_toNat_of_lt ht, ha1, ha2, ha3, ha4]
  rw [if_neg (by simp only [List.length_append, List.length_replicate]; omega), if_neg (by simp), hbody,
    ← List.append_assoc, List.take_left, List.drop_left]
  by_cases hp0 : p = 0
  · subst hp0
    rw [if_neg (fun h => absurd (ha5.mp h) (by decide))]
    simp
  · rw [if_pos (ha5.mpr (bne_iff_ne.mpr hp0)), getLast?_append_replicate _ _ _ (by omega)]
    simp only [b8_toNat_of_lt (show p < 256 by omega)]
    rw [if_neg (by simp only [List.length_append, List.length_replicate]; omega)]
    simp
/-! ### visible records -/

theorem segLen_bounds (cap : Nat) (s : PSeg) (hc : 12 ≤ cap) (he : cap % 2 = 0) (h : SegOk cap s) :
    16 ≤ segLen s ∧ segLen s ≤ cap + 4 ∧ segLen s % 2 = 0 := by
  have := padLen_spec s.payload.length
  unfold SegOk at h
  unfold segLen
  omega

theorem parseSegs_single {cap : Nat} {s : PSeg} (fuel : Nat) (hf : 1 ≤ fuel) (hs : SegOk cap s)
    (hcap : cap ≤ 65000) : parseSegs fuel (encSeg s) = some [s] := by
  obtain ⟨f, rfl⟩ : ∃ f, fuel = f + 1 := ⟨fuel - 1, by omega⟩
  have := parseSeg_encSeg [] hs hcap
  rw [List.append_nil] at this
  simp [parseSegs, this]

theorem encVR_length (b : Bytes) : (encVR b).length = b.length + 4 := by
  simp [encVR, beN2]

/-- one visible record whose body the segment reader accepts, whatever follows it; `cap` is the room a record
of the maximal length leaves for a segment body -/
theorem parseVRs_encVR (cap fuel : Nat) (body tail : Bytes) (segs : List PSeg) (h16 : 16 ≤ body.length)
    (hle : body.length ≤ cap + 4) (hev : body.length % 2 = 0) (hv : cap ≤ 65000)
    (hp : parseSegs body.length body = some segs) :
    parseVRs (cap + 8) (fuel + 1) (encVR body ++ tail) = (parseVRs (cap + 8) fuel tail).map (segs ++ ·) := by
  simp only [encVR, beN2, List.cons_append, List.nil_append, parseVRs,
    be2_toNat (show body.length + 4 < 65536 by omega)]
  rw [if_neg (by simp only [List.length_append]; omega), if_neg (by decide), Nat.add_sub_cancel, List.take_left,
    List.drop_left, hp]

/-- fuel: the number of bytes, which is what `readSegs` supplies -/
theorem parseVRs_map (cap : Nat) (hc : 12 ≤ cap) (he : cap % 2 = 0) (hv : cap ≤ 65000) :
    ∀ (segs : List PSeg) (fuel : Nat), (∀ s ∈ segs, SegOk cap s) →
      ((segs.map fun s => encVR (encSeg s)).flatten).length ≤ fuel →
      parseVRs (cap + 8) fuel ((segs.map fun s => encVR (encSeg s)).flatten) = some segs := by
  intro segs
  induction segs with
  | nil => intro fuel _ _; cases fuel <;> simp [parseVRs]
  | cons s ss ih =>
    intro fuel hok hf
    have hs := hok s (List.mem_cons_self ..)
    have ⟨h16, hle, hev⟩ := segLen_bounds cap s hc he hs
    rw [← encSeg_length s] at h16 hle hev
    simp only [List.map_cons, List.flatten_cons, List.length_append, encVR_length] at hf ⊢
    obtain ⟨f, rfl⟩ : ∃ f, fuel = f + 1 := ⟨fuel - 1, by omega⟩
    rw [parseVRs_encVR cap f _ _ [s] h16 hle hev hv (parseSegs_single _ (by omega) hs hv),
      ih f (fun s' hs' => hok s' (List.mem_cons_of_mem _ hs')) (by omega)]
    rfl

/-! ### storage unit label and the whole file -/

theorem justify_length {s : PStr} {len : Nat} {left : Bool} {b : Bytes} (h : justify s len left = .ok b) :
    b.length = len := by
  unfold justify at h
  split at h; · simp at h
  obtain ⟨_, rfl⟩ := asciiBytes_eq_ok.mp h
  split <;> simp <;> omega

theorem sulBytes_length {c : Cfg} {b : Bytes} (h : sulBytes c = .ok b) : b.length = 80 := by
  simp only [sulBytes, bind_ok, pure_ok] at h
  obtain ⟨a, ha, b', hb, d, hd, e, he, f, hf, rfl⟩ := h
  simp [justify_length ha, justify_length hb, justify_length hd, justify_length he, justify_length hf]

/-- an accepted record length, as the room `cap` it leaves for a segment body (record and segment header take 8
bytes): at least the 12-byte minimum, and even -/
theorem vrlValid_cap {v : Int} (h : vrlValid v = true) :
    ∃ cap : Nat, v.toNat = cap + 8 ∧ v = (cap : Int) + 8 ∧ 12 ≤ cap ∧ cap % 2 = 0 ∧ cap ≤ 65000 := by
  unfold vrlValid at h
  simp only [decide_eq_true_eq] at h
  refine ⟨v.toNat - 8, ?_⟩
  omega

theorem frameFile_eq_ok {c : Cfg} {recs : List Rec} {out : Bytes} :
    frameFile c recs = .ok out ↔
      vrlValid c.vrl = true ∧ ∃ sul, sulBytes c = .ok sul ∧ out = sul ++ frameRecs c.vrl.toNat recs := by
  simp only [frameFile, ite_error_left, bind_ok, pure_ok, Bool.not_eq_true', Bool.not_eq_false, @eq_comm _ out]

theorem readFile_eq (c : Cfg) (bs : Bytes) : readFile c bs = (readSegs c bs).bind (assemble none) := by
  unfold readFile readSegs
  split
  · rfl
  · cases parseVRs c.vrl.toNat bs.length (bs.drop 80) <;> rfl

/-- the reader on the configured label followed by anything: the label is accepted and the rest is read as
visible records -/
theorem readSegs_append {c : Cfg} {sul : Bytes} (rest : Bytes) (hs : sulBytes c = .ok sul)
    (hv : vrlValid c.vrl = true) :
    readSegs c (sul ++ rest) = parseVRs c.vrl.toNat (sul ++ rest).length rest := by
  have hl := sulBytes_length hs
  unfold readSegs
  rw [← hl, List.take_left, List.drop_left, if_neg (by simp [checkSul, hs, hl, hv])]

end Dlis
