/-
  Loading in chunks returns the rows because every chunk extends the prefix loaded so far
  (`take_append_loadChunk`); the frame's records are then the bodies of the rows in order, numbered
  (`frameRecordsFrom_ok`), and what a body decodes to is `Proofs/Iflr.lean`'s business.
-/
import Dlismodel.Model.Data
import Dlismodel.Proofs.Iflr
namespace Dlis

theorem window_all {α : Type} (rows : List α) : window rows 0 none = rows := by
  simp [window]

theorem mem_of_mem_window {α : Type} {rows : List α} {a : Nat} {b : Option Nat} {x : α}
    (h : x ∈ window rows a b) : x ∈ rows :=
  List.mem_of_mem_take (List.mem_of_mem_drop h)

theorem take_append_loadChunk {α : Type} (rows : List α) {a b : Nat} (h : a ≤ b) :
    rows.take a ++ loadChunk rows a b = rows.take b := by
  have := List.take_append_drop a (rows.take b)
  rwa [List.take_take, Nat.min_eq_left h, List.drop_take] at this

theorem full_chunks_take {α : Type} (rows : List α) (c : Nat) (k : Nat) :
    ((List.range k).map (fun i => (i * c, (i + 1) * c))).flatMap (fun (p : Nat × Nat) => loadChunk rows p.1 p.2)
      = rows.take (k * c) := by
  induction k with
  | zero => simp
  | succ k ih =>
    simp only [List.range_succ, List.map_append, List.flatMap_append, ih, List.map_cons, List.map_nil,
      List.flatMap_cons, List.flatMap_nil, List.append_nil]
    exact take_append_loadChunk rows (Nat.mul_le_mul_right c (Nat.le_succ k))

/-- C10/C03: whatever the chunk size (divisor or not, larger than the data or not) the rows come out exactly
once and in order.  `MultiFrameData` refuses a chunk size below 1; here 0 gives one chunk with everything, by
Lean's `n / 0 = 0` and `n % 0 = n`. -/
theorem chunkedRows_eq {α : Type} (rows : List α) (c : Option Nat) : chunkedRows rows c = rows := by
  cases c with
  | none => simp [chunkedRows, loadChunk]
  | some c =>
    -- the full chunks are the first `n / c * c` rows; a remainder chunk takes them up to `n`, and none is needed at `n`
    have hm := Nat.div_add_mod' rows.length c
    simp only [chunkedRows, chunkBounds, List.flatMap_append, full_chunks_take]
    split
    · simp [take_append_loadChunk rows (Nat.le.intro hm)]
    · exact (List.append_nil _).trans (List.take_of_length_le (by omega))

theorem frameRecordsFrom_ok {frame : ObName} {rows : List (List Slot)} : ∀ {k : Nat} {bodies : List Bytes},
    frameRecordsFrom frame k rows = .ok bodies →
    bodies.length = rows.length ∧ ∀ i (hi : i < rows.length) (hi' : i < bodies.length),
      frameDataBody frame ((k + i : Nat) + 1) rows[i] = .ok bodies[i] := by
  induction rows with
  | nil =>
    intro k bodies h
    cases h
    simp
  | cons r rs ih =>
    intro k bodies h
    simp only [frameRecordsFrom, bind_ok, pure_ok] at h
    obtain ⟨b, hb, bs, hbs, rfl⟩ := h
    obtain ⟨hl, hrest⟩ := ih hbs
    refine ⟨by simp [hl], fun i hi hi' => ?_⟩
    cases i with
    | zero => exact hb
    | succ j => exact Nat.add_right_comm k 1 j ▸ hrest j (by simpa using hi) (by simpa using hi')

end Dlis
