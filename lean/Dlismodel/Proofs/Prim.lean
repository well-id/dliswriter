/-
  Every encoder gets one lemma saying when it succeeds and with which bytes (`enc…_eq_ok`); domain, length
  and round-trip are read off it.  The decoders that pick bytes off the front by hand (`decUvari`) are tied to
  `rdN`, so that the byte arithmetic is done once, in `rdN_beN`.
-/
import Dlismodel.Model.Prim
import Dlismodel.Proofs.Util

namespace Dlis

/-! ### bytes and big-endian numbers -/

theorem b8_toNat (n : Nat) : (b8 n).toNat = n % 256 := by
  simp [b8]

theorem b8_toNat_of_lt {n : Nat} (h : n < 256) : (b8 n).toNat = n := by
  rw [b8_toNat, Nat.mod_eq_of_lt h]

@[simp] theorem beN_length (k n : Nat) : (beN k n).length = k := by
  induction k generalizing n with
  | zero => simp [beN]
  | succ k ih => simp [beN, ih]

theorem beN2 (n : Nat) : beN 2 n = [b8 (n / 256), b8 n] := by simp [beN]

/-- what a reader computes from a two-byte length field -/
theorem be2_toNat {n : Nat} (h : n < 65536) : (b8 (n / 256)).toNat * 256 + (b8 n).toNat = n := by
  rw [b8_toNat, b8_toNat]; omega

theorem rdN_beN (k n : Nat) (rest : Bytes) (h : n < 256 ^ k) :
    rdN k (beN k n ++ rest) = some (n, rest) := by
  induction k generalizing n rest with
  | zero => simp [beN, rdN]; omega
  | succ k ih =>
    have h1 : n / 256 < 256 ^ k := by
      rw [Nat.pow_succ] at h
      exact Nat.div_lt_of_lt_mul (by omega)
    simp only [beN, rdN, List.append_assoc, List.singleton_append]
    rw [ih (n / 256) (b8 n :: rest) h1]
    simp [b8_toNat]
    omega

theorem rdN_some_length {k : Nat} {bs : Bytes} {n : Nat} {r : Bytes} (h : rdN k bs = some (n, r)) :
    bs.length = k + r.length ∧ n < 256 ^ k := by
  induction k generalizing bs n r with
  | zero => simp [rdN] at h; obtain ⟨rfl, rfl⟩ := h; simp
  | succ k ih =>
    simp only [rdN] at h
    split at h
    · rename_i hi b rest heq
      have := ih heq
      simp at h
      obtain ⟨rfl, rfl⟩ := h
      have hb := b.toNat_lt
      simp at this
      refine ⟨by omega, ?_⟩
      rw [Nat.pow_succ]; omega
    · simp at h

/-! ### fixed-width integers -/

theorem pow_cast (k : Nat) : ((256 ^ k : Nat) : Int) = (256 : Int) ^ k := by
  simp [Int.natCast_pow]

theorem encU_eq_ok {k : Nat} {v : Int} {bs : Bytes} :
    encU k v = .ok bs ↔ (0 ≤ v ∧ v < (256 : Int) ^ k) ∧ bs = beN k v.toNat := ite_ok

theorem encU_ok_iff (k : Nat) (v : Int) :
    (∃ bs, encU k v = .ok bs) ↔ (0 ≤ v ∧ v < (256 : Int) ^ k) := exists_ok_iff fun _ => encU_eq_ok

theorem encU_length {k : Nat} {v : Int} {bs : Bytes} (h : encU k v = .ok bs) : bs.length = k := by
  rw [(encU_eq_ok.mp h).2, beN_length]

theorem decU_encU {k : Nat} {v : Int} {bs : Bytes} (h : encU k v = .ok bs) (rest : Bytes) :
    decU k (bs ++ rest) = some (v, rest) := by
  obtain ⟨⟨h0, h1⟩, rfl⟩ := encU_eq_ok.mp h
  have hc := pow_cast k
  simp [decU, rdN_beN k _ rest (show v.toNat < 256 ^ k by omega), Int.toNat_of_nonneg h0]

theorem encS_eq_ok {k : Nat} {v : Int} {bs : Bytes} :
    encS k v = .ok bs ↔ (-((256 : Int) ^ k / 2) ≤ v ∧ v < (256 : Int) ^ k / 2) ∧
      bs = beN k (v % (256 : Int) ^ k).toNat := ite_ok

theorem encS_ok_iff (k : Nat) (v : Int) :
    (∃ bs, encS k v = .ok bs) ↔ (-((256 : Int) ^ k / 2) ≤ v ∧ v < (256 : Int) ^ k / 2) :=
  exists_ok_iff fun _ => encS_eq_ok

theorem encS_length {k : Nat} {v : Int} {bs : Bytes} (h : encS k v = .ok bs) : bs.length = k := by
  rw [(encS_eq_ok.mp h).2, beN_length]

theorem pow256_even (k : Nat) (hk : 0 < k) : (256 : Int) ^ k / 2 * 2 = (256 : Int) ^ k := by
  obtain ⟨j, rfl⟩ : ∃ j, k = j + 1 := ⟨k - 1, by omega⟩
  rw [Int.pow_succ]
  omega

/-- two's complement over an even modulus: the residue of a value of the signed range -/
theorem emod_of_signed {M v : Int} (hev : M / 2 * 2 = M) (h0 : -(M / 2) ≤ v) (h1 : v < M / 2) :
    v % M = if 0 ≤ v then v else v + M := by
  split
  · exact Int.emod_eq_of_lt ‹_› (by omega)
  · rw [← Int.add_emod_right]; exact Int.emod_eq_of_lt (by omega) (by omega)

/-- the signed reading is the unsigned one, taken down by the modulus from the middle on -/
theorem decS_eq (k : Nat) (bs : Bytes) :
    decS k bs = (decU k bs).map fun p => (if p.1 < (256 : Int) ^ k / 2 then p.1 else p.1 - (256 : Int) ^ k, p.2) := by
  have hc := pow_cast k
  unfold decS decU
  cases rdN k bs with
  | none => rfl
  | some p =>
    have : (p.1 < 256 ^ k / 2) = ((p.1 : Int) < (256 : Int) ^ k / 2) := propext (by omega)
    simp only [Option.map_some, this]

theorem decS_encS {k : Nat} (hk : 0 < k) {v : Int} {bs : Bytes} (h : encS k v = .ok bs) (rest : Bytes) :
    decS k (bs ++ rest) = some (v, rest) := by
  obtain ⟨⟨h0, h1⟩, rfl⟩ := encS_eq_ok.mp h
  have hpos : (0 : Int) < (256 : Int) ^ k := Int.pow_pos (by decide)
  -- the bytes are those of the residue written unsigned
  have hu : encU k (v % (256 : Int) ^ k) = .ok (beN k (v % (256 : Int) ^ k).toNat) :=
    encU_eq_ok.mpr ⟨⟨Int.emod_nonneg _ (Int.ne_of_gt hpos), Int.emod_lt_of_pos _ hpos⟩, rfl⟩
  have hm := emod_of_signed (pow256_even k hk) h0 h1
  simp only [decS_eq, decU_encU hu, Option.map_some]
  split at hm <;> rw [hm]
  · rw [if_pos h1]
  · rw [if_neg (by omega), Int.add_sub_cancel]

/-! ### UVARI -/

/-- the three forms as the standard gives them: a big-endian number of 1, 2 or 4 bytes whose two leading bits
say which, i.e. the value plus 0, 0x8000 or 0xC0000000 -/
theorem decUvari_of_rdN1 {bs rest : Bytes} {m : Nat} (h : rdN 1 bs = some (m, rest)) (hm : m < 128) :
    decUvari bs = some (m, rest) := by
  rcases bs with _ | ⟨b, r⟩ <;> simp [rdN] at h
  obtain ⟨rfl, rfl⟩ := h
  simp [decUvari, hm]

theorem decUvari_of_rdN2 {bs rest : Bytes} {n : Nat} (h : rdN 2 bs = some (n + 32768, rest)) (hn : n < 16384) :
    decUvari bs = some (n, rest) := by
  rcases bs with _ | ⟨b, _ | ⟨c, r⟩⟩ <;> simp [rdN] at h
  obtain ⟨hm, rfl⟩ := h
  have := c.toNat_lt
  obtain ⟨b', hb⟩ : ∃ b', b.toNat = b' + 128 := ⟨b.toNat - 128, by omega⟩
  simp only [decUvari, hb] at hm ⊢
  rw [if_neg (by omega), if_pos (by omega), Nat.add_sub_cancel, show n = b' * 256 + c.toNat by omega]

theorem decUvari_of_rdN4 {bs rest : Bytes} {n : Nat} (h : rdN 4 bs = some (n + 3221225472, rest)) :
    decUvari bs = some (n, rest) := by
  rcases bs with _ | ⟨b, _ | ⟨c, _ | ⟨d, _ | ⟨e, r⟩⟩⟩⟩ <;> simp [rdN] at h
  obtain ⟨hm, rfl⟩ := h
  have := c.toNat_lt; have := d.toNat_lt; have := e.toNat_lt
  obtain ⟨b', hb⟩ : ∃ b', b.toNat = b' + 192 := ⟨b.toNat - 192, by omega⟩
  simp only [decUvari, hb] at hm ⊢
  rw [if_neg (by omega), if_neg (by omega), Nat.add_sub_cancel,
    show n = ((b' * 256 + c.toNat) * 256 + d.toNat) * 256 + e.toNat by omega]

theorem encUvari_eq_ok {v : Int} {bs : Bytes} :
    encUvari v = .ok bs ↔ (0 ≤ v ∧ v < 1073741824) ∧
      bs = if v < 128 then beN 1 v.toNat else if v < 16384 then beN 2 (v.toNat + 32768)
        else beN 4 (v.toNat + 3221225472) := by
  unfold encUvari
  split
  · rw [encU_eq_ok]; exact and_congr_left' (by omega)
  · split
    · rw [encU_eq_ok, show (v + 32768).toNat = v.toNat + 32768 by omega]; exact and_congr_left' (by omega)
    · rw [encU_eq_ok, show (v + 3221225472).toNat = v.toNat + 3221225472 by omega]
      exact and_congr_left' (by omega)

theorem encUvari_ok_iff (v : Int) : (∃ bs, encUvari v = .ok bs) ↔ (0 ≤ v ∧ v < 1073741824) :=
  exists_ok_iff fun _ => encUvari_eq_ok

theorem decUvari_encUvari {v : Int} {bs : Bytes} (h : encUvari v = .ok bs) (rest : Bytes) :
    decUvari (bs ++ rest) = some (v.toNat, rest) := by
  obtain ⟨⟨h0, h1⟩, rfl⟩ := encUvari_eq_ok.mp h
  split
  · exact decUvari_of_rdN1 (rdN_beN 1 v.toNat rest (by omega)) (by omega)
  · split
    · exact decUvari_of_rdN2 (rdN_beN 2 (v.toNat + 32768) rest (by omega)) (by omega)
    · exact decUvari_of_rdN4 (rdN_beN 4 (v.toNat + 3221225472) rest (by omega))

/-! ### text -/

theorem asciiBytes_eq_ok {s : PStr} {b : Bytes} : asciiBytes s = .ok b ↔ isAscii s = true ∧ b = s.map b8 :=
  ite_ok

theorem takeN_append (s rest : Bytes) : takeN s.length (s ++ rest) = some (s, rest) := by
  simp [takeN]

theorem allAscii_map_b8 (s : PStr) (h : isAscii s = true) : allAscii (s.map b8) = true := by
  unfold allAscii isAscii at *
  simp only [List.all_eq_true, List.mem_map, forall_exists_index, and_imp] at *
  intro b x hx hb
  subst hb
  have := h x hx
  simp only [decide_eq_true_eq] at *
  rw [b8_toNat]; omega

/-- the common tail of `decAscii` and `decIdent`: `n` characters are there and are 7-bit -/
theorem takeN_map_b8 (s : PStr) (rest : Bytes) : takeN s.length (s.map b8 ++ rest) = some (s.map b8, rest) := by
  have := takeN_append (s.map b8) rest
  rwa [List.length_map] at this

/-- ASCII (UVARI length prefix): the strict decoder returns the characters and the rest -/
theorem decAscii_encAscii {s : PStr} {bs : Bytes} (h : encAscii s = .ok bs) (rest : Bytes) :
    decAscii (bs ++ rest) = some (s.map b8, rest) := by
  simp only [encAscii, bind_ok, pure_ok, asciiBytes_eq_ok] at h
  obtain ⟨l, hl, _, ⟨ha, rfl⟩, rfl⟩ := h
  have := decUvari_encUvari hl (s.map b8 ++ rest)
  rw [Int.toNat_natCast] at this
  simp only [decAscii, List.append_assoc, this, takeN_map_b8, allAscii_map_b8 s ha, if_true]

theorem encAscii_ok_iff (s : PStr) :
    (∃ bs, encAscii s = .ok bs) ↔ (isAscii s = true ∧ s.length < 1073741824) := by
  simp only [encAscii, bind_ok, pure_ok, asciiBytes_eq_ok]
  constructor
  · intro ⟨bs, l, hl, b, hb, _⟩
    have := (encUvari_ok_iff _).mp ⟨l, hl⟩
    exact ⟨hb.1, by omega⟩
  · intro ⟨ha, hl⟩
    obtain ⟨l, hl'⟩ := (encUvari_ok_iff (s.length : Int)).mpr ⟨by omega, by omega⟩
    exact ⟨_, l, hl', _, ⟨ha, rfl⟩, rfl⟩

theorem encIdent_eq_ok {s : PStr} {bs : Bytes} :
    encIdent s = .ok bs ↔ (isAscii s = true ∧ s.length ≤ 255) ∧ bs = b8 s.length :: s.map b8 := by
  simp only [encIdent, ite_error_left, bind_ok, pure_ok, asciiBytes_eq_ok]
  constructor
  · rintro ⟨hl, _, ⟨ha, rfl⟩, rfl⟩; exact ⟨⟨ha, by omega⟩, rfl⟩
  · rintro ⟨⟨ha, hl⟩, rfl⟩; exact ⟨by omega, _, ⟨ha, rfl⟩, rfl⟩

theorem encIdent_ok_iff (s : PStr) :
    (∃ bs, encIdent s = .ok bs) ↔ (isAscii s = true ∧ s.length ≤ 255) := exists_ok_iff fun _ => encIdent_eq_ok

/-- IDENT (one-byte length prefix) -/
theorem decIdent_encIdent {s : PStr} {bs : Bytes} (h : encIdent s = .ok bs) (rest : Bytes) :
    decIdent (bs ++ rest) = some (s.map b8, rest) := by
  obtain ⟨⟨ha, hl⟩, rfl⟩ := encIdent_eq_ok.mp h
  simp only [decIdent, List.cons_append, b8_toNat_of_lt (Nat.lt_succ_of_le hl), takeN_map_b8,
    allAscii_map_b8 s ha, if_true]

/-! ### DTIME -/

theorem msOfMicro_le (us : Nat) : msOfMicro us ≤ 999 := by
  unfold msOfMicro; exact Nat.min_le_right _ _

theorem encDtime_ok {t : DTime} {bs : Bytes} (h : encDtime t = .ok bs) :
    (0 ≤ t.year - 1900 ∧ (t.year - 1900).toNat < 256 ∧ 32 + t.month < 256 ∧ t.day < 256 ∧ t.hour < 256 ∧
        t.minute < 256 ∧ t.second < 256) ∧
      bs = [b8 (t.year - 1900).toNat, b8 (32 + t.month), b8 t.day, b8 t.hour, b8 t.minute, b8 t.second,
            b8 (msOfMicro t.micro / 256), b8 (msOfMicro t.micro)] := by
  simp only [encDtime, bind_ok, pure_ok, encU_eq_ok] at h
  obtain ⟨_, ⟨⟨_, _⟩, rfl⟩, _, ⟨⟨_, _⟩, rfl⟩, _, ⟨⟨_, _⟩, rfl⟩, _, ⟨⟨_, _⟩, rfl⟩, _, ⟨⟨_, _⟩, rfl⟩,
    _, ⟨⟨_, _⟩, rfl⟩, _, ⟨_, rfl⟩, rfl⟩ := h
  refine ⟨by omega, ?_⟩
  rw [show (32 + (t.month : Int)) = ((32 + t.month : Nat) : Int) from (Int.natCast_add 32 t.month).symm]
  simp only [beN, Int.toNat_natCast, List.nil_append, List.cons_append]

/-- DTIME round-trip: the decoded fields are the UTC fields, time-zone code 2 (GMT), and the
rounded millisecond; whenever the encoder succeeds on calendar-valid fields the strict decoder
accepts. -/
theorem decDtime_encDtime {t : DTime} {bs : Bytes} (h : encDtime t = .ok bs) (rest : Bytes)
    (hm : 1 ≤ t.month ∧ t.month ≤ 12) (hd : 1 ≤ t.day ∧ t.day ≤ 31) (hh : t.hour ≤ 23)
    (hmi : t.minute ≤ 59) (hs : t.second ≤ 59) :
    decDtime (bs ++ rest) =
      some ({ y := (t.year - 1900).toNat, tz := 2, month := t.month, day := t.day, hour := t.hour,
              minute := t.minute, second := t.second, ms := msOfMicro t.micro }, rest) := by
  obtain ⟨⟨_, by0, by1, by2, by3, by4, by5⟩, rfl⟩ := encDtime_ok h
  have hms := msOfMicro_le t.micro
  -- zone code 2 in the high nibble, month in the low one
  have htz : (32 + t.month) / 16 = 2 ∧ (32 + t.month) % 16 = t.month := by omega
  simp only [List.cons_append, List.nil_append, decDtime, b8_toNat_of_lt by0, b8_toNat_of_lt by1,
    b8_toNat_of_lt by2, b8_toNat_of_lt by3, b8_toNat_of_lt by4, b8_toNat_of_lt by5,
    be2_toNat (Nat.lt_of_le_of_lt hms (by decide)), htz]
  rw [if_pos ⟨by decide, hm.1, hm.2, hd.1, hd.2, hh, hmi, hs, hms⟩]

/-! ### OBNAME / OBJREF / STATUS -/

theorem decObname_encObname {o : ObName} {bs : Bytes} (h : encObname o = .ok bs) (rest : Bytes) :
    decObname (bs ++ rest) = some ({ origin := o.origin.toNat, copy := o.copy.toNat, name := o.name.map b8 }, rest) := by
  simp only [encObname, bind_ok, pure_ok, encU_eq_ok] at h
  obtain ⟨a, ha, _, ⟨⟨hc0, hc1⟩, rfl⟩, n, hn, rfl⟩ := h
  simp only [decObname, List.append_assoc, decUvari_encUvari ha, beN, List.cons_append, List.nil_append,
    decIdent_encIdent hn, b8_toNat_of_lt (show o.copy.toNat < 256 by omega)]

theorem decObjref_encObjref {t : PStr} {o : ObName} {bs : Bytes} (h : encObjref t o = .ok bs) (rest : Bytes) :
    decObjref (bs ++ rest) =
      some ((t.map b8, { origin := o.origin.toNat, copy := o.copy.toNat, name := o.name.map b8 }), rest) := by
  simp only [encObjref, bind_ok, pure_ok] at h
  obtain ⟨a, ha, n, hn, rfl⟩ := h
  simp only [decObjref, List.append_assoc, decIdent_encIdent ha, decObname_encObname hn]

theorem encStatus_eq_ok {v : Int} {bs : Bytes} :
    encStatus v = .ok bs ↔ (v = 0 ∨ v = 1) ∧ bs = [b8 v.toNat] := by
  simp only [encStatus, ite_error_left, encU_eq_ok, beN, List.nil_append]
  constructor
  · rintro ⟨h, _, rfl⟩; exact ⟨by omega, rfl⟩
  · rintro ⟨h, rfl⟩; exact ⟨by omega, by omega, rfl⟩

theorem encStatus_ok_iff (v : Int) : (∃ bs, encStatus v = .ok bs) ↔ (v = 0 ∨ v = 1) :=
  exists_ok_iff fun _ => encStatus_eq_ok

theorem decStatus_encStatus {v : Int} {bs : Bytes} (h : encStatus v = .ok bs) (rest : Bytes) :
    decStatus (bs ++ rest) = some (v.toNat, rest) := by
  obtain ⟨hv, rfl⟩ := encStatus_eq_ok.mp h
  simp only [decStatus, List.cons_append, List.nil_append, b8_toNat_of_lt (show v.toNat < 256 by omega)]
  rw [if_pos (by omega)]

end Dlis
