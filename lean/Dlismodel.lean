import Dlismodel.Model.Prim
import Dlismodel.Model.Seg
import Dlismodel.Model.Parse
import Dlismodel.Model.Eflr
import Dlismodel.Model.ParseEflr
import Dlismodel.Model.Iflr
import Dlismodel.Model.Data
import Dlismodel.Model.Api
import Dlismodel.Model.Output
import Dlismodel.Model.Index
import Dlismodel.Model.FrameIdx
import Dlismodel.Model.Hc
import Dlismodel.Model.Cache
import Dlismodel.Model.File
import Dlismodel.Model.Alias
import Dlismodel.Model.Convert
import Dlismodel.Model.Defaults
import Dlismodel.Model.Dataset
import Dlismodel.Model.Checks
import Dlismodel.Model.Cast
import Dlismodel.Model.DriverConv
import Dlismodel.Model.Driver
import Dlismodel.Standard
import Dlismodel.StandardConvs
import Dlismodel.Generated.Tables
import Dlismodel.Generated.Convs
import Dlismodel.Generated.Obligations
import Dlismodel.Proofs.Util
import Dlismodel.Proofs.Prim
import Dlismodel.Proofs.Seg
import Dlismodel.Proofs.Eflr
import Dlismodel.Proofs.FileHeader
import Dlismodel.Proofs.Convert
import Dlismodel.Proofs.Defaults
import Dlismodel.Proofs.Iflr
import Dlismodel.Proofs.Data
import Dlismodel.Proofs.Api
import Dlismodel.Proofs.Checks
import Dlismodel.Proofs.FrameIdx
import Dlismodel.Proofs.Output
import Dlismodel.Props.C01
import Dlismodel.Props.C02
import Dlismodel.Props.C03
import Dlismodel.Props.C04
import Dlismodel.Props.C05
import Dlismodel.Props.C06
import Dlismodel.Props.C07
import Dlismodel.Props.C08
import Dlismodel.Props.C09
import Dlismodel.Props.C10
import Dlismodel.Props.C11
import Dlismodel.Props.C12
import Dlismodel.Props.C13
import Dlismodel.Props.C14
import Dlismodel.Props.C15
import Dlismodel.Props.C16
import Dlismodel.Props.C17
import Dlismodel.Props.C18
import Dlismodel.Props.C19
import Dlismodel.Props.C20
